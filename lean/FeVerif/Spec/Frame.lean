/-
The framing specification shared by C04, C05, C07, C08, C14, C18:
a left-to-right scan of a byte sequence for messages `header ++ body` that pass
a header predicate and a body predicate (CRC).  Everything is parametric in the predicates.
-/
import FeVerif.Basic.Bytes

namespace FeVerif

theorem of_ite_eq {α} {p : Prop} [Decidable p] {a b v : α} (h : (if p then a else b) = v) (ha : a ≠ v) :
    ¬ p ∧ b = v := by
  by_cases hp : p
  · rw [if_pos hp] at h; exact absurd h ha
  · rw [if_neg hp] at h; exact ⟨hp, h⟩

/-- A framing configuration.  `headerOk` looks at exactly `hdrLen` bytes (sync, reserved bytes,
announced length within the limit), `payload` is the number of bytes announced to follow the
header, `bodyOk` looks at exactly `hdrLen + payload` bytes (the integrity check). -/
structure Cfg where
  hdrLen : Nat
  hdrLen_pos : 0 < hdrLen
  headerOk : Bytes → Bool
  payload : Bytes → Nat
  bodyOk : Bytes → Bool

namespace Cfg

def msgLen (c : Cfg) (buf : Bytes) : Nat := c.hdrLen + c.payload (buf.take c.hdrLen)

/-- The verdict of the scan on the front of `buf`. -/
inductive Step
  | stop            -- cannot be judged yet: fewer than `hdrLen` bytes, or a plausible header whose body is incomplete
  | drop            -- the first byte does not start a message
  | emit (n : Nat)  -- the first `n` bytes are a message
  deriving DecidableEq, Repr

def step (c : Cfg) (buf : Bytes) : Step :=
  if buf.length < c.hdrLen then .stop
  else if c.headerOk (buf.take c.hdrLen) = false then .drop
  else if buf.length < c.msgLen buf then .stop
  else if c.bodyOk (buf.take (c.msgLen buf)) = true then .emit (c.msgLen buf)
  else .drop

theorem hdrLen_le_msgLen (c : Cfg) (buf : Bytes) : c.hdrLen ≤ c.msgLen buf := Nat.le_add_right _ _

theorem step_emit_iff {c : Cfg} {buf : Bytes} {n : Nat} :
    c.step buf = .emit n ↔
      c.hdrLen ≤ buf.length ∧ c.headerOk (buf.take c.hdrLen) = true ∧ n = c.msgLen buf ∧
      n ≤ buf.length ∧ c.bodyOk (buf.take n) = true := by
  unfold step
  constructor
  · intro h
    obtain ⟨h1, h⟩ := of_ite_eq h nofun
    obtain ⟨h2, h⟩ := of_ite_eq h nofun
    obtain ⟨h3, h⟩ := of_ite_eq h nofun
    by_cases h4 : c.bodyOk (buf.take (c.msgLen buf)) = true
    · rw [if_pos h4] at h; cases h; exact ⟨by omega, by simpa using h2, rfl, by omega, h4⟩
    · rw [if_neg h4] at h; cases h
  · rintro ⟨h1, h2, rfl, h4, h5⟩
    rw [if_neg (by omega), if_neg (by simp [h2]), if_neg (by omega), if_pos h5]

theorem step_stop_iff {c : Cfg} {buf : Bytes} :
    c.step buf = .stop ↔
      buf.length < c.hdrLen ∨ (c.headerOk (buf.take c.hdrLen) = true ∧ buf.length < c.msgLen buf) := by
  unfold step
  split; · simp [*]
  split; · simp [*]
  split
  next h1 h2 h3 => simpa [h1, h3] using h2
  split <;> simp [*]

theorem hdrLen_le_of_ne_stop {c : Cfg} {buf : Bytes} (h : c.step buf ≠ .stop) : c.hdrLen ≤ buf.length :=
  Nat.le_of_not_lt fun hl => h (step_stop_iff.2 (.inl hl))

theorem hdrLen_le_of_emit {c : Cfg} {buf : Bytes} {n : Nat} (h : c.step buf = .emit n) : c.hdrLen ≤ n :=
  (step_emit_iff.1 h).2.2.1 ▸ c.hdrLen_le_msgLen buf

theorem step_emit_pos {c : Cfg} {buf : Bytes} {n : Nat} (h : c.step buf = .emit n) :
    0 < n ∧ n ≤ buf.length :=
  ⟨Nat.lt_of_lt_of_le c.hdrLen_pos (hdrLen_le_of_emit h), (step_emit_iff.1 h).2.2.2.1⟩

theorem step_drop_pos {c : Cfg} {buf : Bytes} (h : c.step buf = .drop) : 0 < buf.length :=
  Nat.lt_of_lt_of_le c.hdrLen_pos (hdrLen_le_of_ne_stop (by simp [h]))

/-- Result of a scan: accepted messages as `(stream offset, length)`, the bytes not yet judged,
and the stream offset of the first of them. -/
structure Out where
  msgs : List (Nat × Nat)
  rest : Bytes
  off : Nat
  deriving DecidableEq, Repr

/-- Streaming scan: stops at the first position that cannot be judged yet. -/
def run (c : Cfg) (buf : Bytes) (off : Nat) : Out :=
  match h : c.step buf with
  | .stop => ⟨[], buf, off⟩
  | .drop => run c (buf.drop 1) (off + 1)
  | .emit n => ⟨(off, n) :: (run c (buf.drop n) (off + n)).msgs, (run c (buf.drop n) (off + n)).rest,
                (run c (buf.drop n) (off + n)).off⟩
termination_by buf.length
decreasing_by
  all_goals simp only [List.length_drop]
  all_goals first
    | (have := step_drop_pos h; omega)
    | (have := step_emit_pos h; omega)

/-- Verdict on the front of `buf` when `buf` is known to be everything there is (a file):
a candidate running past the end is not a message. -/
def stepFile (c : Cfg) (buf : Bytes) : Step :=
  if buf.length < c.hdrLen then .stop
  else if c.headerOk (buf.take c.hdrLen) = false then .drop
  else if buf.length < c.msgLen buf then .drop
  else if c.bodyOk (buf.take (c.msgLen buf)) = true then .emit (c.msgLen buf)
  else .drop

theorem stepFile_eq (c : Cfg) (buf : Bytes) :
    c.stepFile buf = if c.step buf = .stop ∧ c.hdrLen ≤ buf.length then .drop else c.step buf := by
  unfold stepFile step
  by_cases h1 : buf.length < c.hdrLen
  · rw [if_pos h1, if_pos h1, if_neg (by omega)]
  rw [if_neg h1, if_neg h1]
  by_cases h2 : c.headerOk (buf.take c.hdrLen) = false
  · rw [if_pos h2, if_pos h2, if_neg (fun h => nomatch h.1)]
  rw [if_neg h2, if_neg h2]
  by_cases h3 : buf.length < c.msgLen buf
  · rw [if_pos h3, if_pos h3, if_pos ⟨rfl, by omega⟩]
  rw [if_neg h3, if_neg h3]
  split <;> rw [if_neg (fun h => nomatch h.1)]

theorem stepFile_emit_iff {c : Cfg} {buf : Bytes} {n : Nat} :
    c.stepFile buf = .emit n ↔ c.step buf = .emit n := by
  rw [stepFile_eq]
  split
  · simp [*]
  · rfl

theorem stepFile_stop_iff {c : Cfg} {buf : Bytes} : c.stepFile buf = .stop ↔ buf.length < c.hdrLen := by
  rw [stepFile_eq]
  split
  · simp; omega
  next hn => exact ⟨fun h => Nat.lt_of_not_le fun hl => hn ⟨h, hl⟩, fun h => step_stop_iff.2 (.inl h)⟩

theorem stepFile_emit_pos {c : Cfg} {buf : Bytes} {n : Nat} (h : c.stepFile buf = .emit n) :
    0 < n ∧ n ≤ buf.length :=
  step_emit_pos (stepFile_emit_iff.1 h)

theorem stepFile_drop_pos {c : Cfg} {buf : Bytes} (h : c.stepFile buf = .drop) : 0 < buf.length :=
  Nat.pos_of_ne_zero fun h0 => by
    rw [stepFile_stop_iff.2 (h0 ▸ c.hdrLen_pos)] at h; cases h

/-- Sequential scan of a complete file. -/
def runFile (c : Cfg) (buf : Bytes) (off : Nat) : List (Nat × Nat) :=
  match h : c.stepFile buf with
  | .stop => []
  | .drop => runFile c (buf.drop 1) (off + 1)
  | .emit n => (off, n) :: runFile c (buf.drop n) (off + n)
termination_by buf.length
decreasing_by
  all_goals simp only [List.length_drop]
  all_goals first
    | (have := stepFile_drop_pos h; omega)
    | (have := stepFile_emit_pos h; omega)

end Cfg
end FeVerif
