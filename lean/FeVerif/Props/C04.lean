/-
C04 — the Python stream decoder returns exactly the valid messages in a byte stream.

`pyFeed m PyDec.init chunks` is the model of a fresh `FusionEngineDecoder(max_payload_len_bytes = m)`
given `chunks` by successive `on_data` calls (model: FeVerif/Model/PyDecoder.lean, tied to decoder.py
by the correspondence harness tools/props/c04.py).  `(cfgPy m).run` is the left-to-right scan.
-/
import FeVerif.Proofs.PyDecoder

namespace FeVerif

/-- The decoder's concatenated results are exactly the messages of the left-to-right scan of the
concatenated input, in order; it retains exactly the bytes the scan cannot judge yet and has counted
exactly the bytes the scan has passed. Unbounded in the number and sizes of chunks. -/
theorem C04_decoder_refines_scan (m : Nat) (chunks : List Bytes) :
    pyFeed m PyDec.init chunks =
      (((cfgPy m).run chunks.flatten 0).msgs,
        PyDec.stopped ((cfgPy m).run chunks.flatten 0).rest ((cfgPy m).run chunks.flatten 0).off) :=
  pyFeed_eq_run m chunks [] 0 (Cfg.step_stop_iff.2 (.inl (cfgPy m).hdrLen_pos))

/-- What the scan accepts at the front of `buf`, spelled out: sync bytes, zero reserved bytes,
payload length within the configured maximum (and the header's sanity limit), all bytes present,
stored CRC equal to the CRC-32 of bytes `[8, 24 + payload)`. -/
theorem C04_accept_criteria (m : Nat) (buf : Bytes) (n : Nat) :
    (cfgPy m).step buf = .emit n ↔
      HDR ≤ buf.length ∧ byteAt buf 0 = 0x2E ∧ byteAt buf 1 = 0x31 ∧ u16le buf 2 = 0 ∧
      u32le buf 16 ≤ m ∧ n = HDR + u32le buf 16 ∧ n ≤ buf.length ∧ u32le buf 16 ≤ 16777216 ∧
      (crc32 0#32 ((buf.take n).drop 8)).toNat = u32le buf 4 := by
  rw [Cfg.step_emit_iff, cfgPy_msgLen]
  show HDR ≤ _ ∧ pyHeaderOk m (buf.take HDR) = true ∧ _ ∧ _ ∧ pyCrcOk (buf.take n) = true ↔ _
  rw [pyHeaderOk_take]
  constructor
  · rintro ⟨h1, h2, rfl, h4, h5⟩
    rw [pyCrcOk_take] at h5
    simp only [pyCrcOk, Bool.and_eq_true, decide_eq_true_eq] at h2 h5
    exact ⟨h1, h2.1.1.1, h2.1.1.2, h2.1.2, h2.2, rfl, h4, h5.1, h5.2⟩
  · rintro ⟨h1, a, b, c, d, rfl, h4, h8, h9⟩
    refine ⟨h1, by simp [SYNC0, SYNC1, a, b, c, d], rfl, h4, ?_⟩
    rw [pyCrcOk_take]
    simp [pyCrcOk, MAX_EXPECTED, h8, h9]

/-- Every returned message lies in the stream at its reported offset, passes all acceptance
criteria on its own bytes, and the returned messages are in increasing, non-overlapping order
(so none starts inside a previously accepted one and none is returned twice). -/
theorem C04_outputs_sound (m : Nat) (chunks : List Bytes) :
    Cfg.Sound (cfgPy m) chunks.flatten 0 0 (pyFeed m PyDec.init chunks).1 := by
  rw [C04_decoder_refines_scan]; exact Cfg.run_sound _ _

/-- Nothing valid is skipped: a stream position already passed by the decoder at which a message
satisfying the acceptance criteria starts is inside (or is the start of) a returned message. -/
theorem C04_outputs_complete (m : Nat) (chunks : List Bytes) (p n : Nat)
    (hp : p < (pyFeed m PyDec.init chunks).2.processed)
    (hv : (cfgPy m).step (chunks.flatten.drop p) = .emit n) :
    ∃ o l, (o, l) ∈ (pyFeed m PyDec.init chunks).1 ∧ o ≤ p ∧ p < o + l := by
  rw [C04_decoder_refines_scan] at hp ⊢
  exact Cfg.run_complete chunks.flatten 0 p n (Nat.zero_le _) hp (by simpa using hv)

/-- Bytes are conserved: consumed + buffered = given. -/
theorem C04_bytes_conserved (m : Nat) (chunks : List Bytes) :
    (pyFeed m PyDec.init chunks).2.processed + (pyFeed m PyDec.init chunks).2.buf.length =
      chunks.flatten.length := by
  rw [C04_decoder_refines_scan]
  have := Cfg.run_conserve (c := cfgPy m) chunks.flatten 0
  simpa [PyDec.stopped] using this

/-- The buffer never holds more than what cannot be judged: fewer than 24 bytes, or an accepted
header (payload within the maximum) whose message is still incomplete — strictly less than one
maximum-size message. -/
theorem C04_buffer_bound (m : Nat) (chunks : List Bytes) :
    let b := (pyFeed m PyDec.init chunks).2.buf
    b.length < HDR ∨ (pyHeaderOk m (b.take HDR) = true ∧ u32le b 16 ≤ m ∧ b.length < HDR + u32le b 16) := by
  intro b
  have hstop : (cfgPy m).step b = .stop := by
    show (cfgPy m).step (pyFeed m PyDec.init chunks).2.buf = _
    rw [C04_decoder_refines_scan]; exact (Cfg.run_rest _ _).1
  rcases Cfg.step_stop_iff.1 hstop with h | ⟨h1, h2⟩
  · exact .inl h
  · have h1 : pyHeaderOk m (b.take HDR) = true := h1
    have hm := h1
    rw [pyHeaderOk_take] at hm
    simp only [Bool.and_eq_true, decide_eq_true_eq] at hm
    exact .inr ⟨h1, hm.2, cfgPy_msgLen m b ▸ h2⟩

/-- The final decoder state is a function of the scan (used by C05): in particular the count of
processed bytes is the stream offset the scan reached. -/
theorem C04_offsets_true (m : Nat) (chunks : List Bytes) (o n : Nat)
    (h : (o, n) ∈ (pyFeed m PyDec.init chunks).1) :
    o + n ≤ chunks.flatten.length ∧ (cfgPy m).step (chunks.flatten.drop o) = .emit n := by
  have := Cfg.sound_mem (C04_outputs_sound m chunks) h
  simp only [Nat.zero_add, Nat.sub_zero] at this
  exact ⟨this.2.2.1, this.2.2.2⟩

/-- Feeding an appended list of calls: the later calls continue from the state the earlier calls left. -/
theorem C04_calls_append (m : Nat) (s : PyDec) (a b : List Bytes) :
    pyFeed m s (a ++ b) =
      ((pyFeed m s a).1 ++ (pyFeed m (pyFeed m s a).2 b).1, (pyFeed m (pyFeed m s a).2 b).2) := by
  induction a generalizing s with
  | nil => simp [pyFeed]
  | cons d ds ih => simp [pyFeed, ih, List.append_assoc]

/-- **Observers that arrive late** (a callback registered between two `on_data` calls, a caller that
starts looking at the return values only then): what the calls `after` return, to a decoder that has
already been given the calls `before`, is exactly the part of the scan of the whole stream that the
earlier calls had not returned - nothing from before the registration is repeated, nothing after it
is missing, the order is the scan's. -/
theorem C04_late_observer (m : Nat) (before after : List Bytes) :
    ((cfgPy m).run (before ++ after).flatten 0).msgs =
      ((cfgPy m).run before.flatten 0).msgs ++
        (pyFeed m (pyFeed m PyDec.init before).2 after).1 := by
  have h := congrArg Prod.fst (C04_decoder_refines_scan m (before ++ after))
  rw [C04_calls_append] at h
  simp only at h
  rw [← h, C04_decoder_refines_scan m before]

/-- ... and each of those later results ends after the bytes of the earlier calls: it could not have
been returned before the registration, because its last byte had not been supplied. -/
theorem C04_late_observer_not_early (m : Nat) (before after : List Bytes) (o n : Nat)
    (h : (o, n) ∈ (pyFeed m (pyFeed m PyDec.init before).2 after).1) :
    ((cfgPy m).run before.flatten 0).off ≤ o ∧ o + n ≤ (before ++ after).flatten.length := by
  have hall : (o, n) ∈ (pyFeed m PyDec.init (before ++ after)).1 := by
    rw [C04_calls_append]; exact List.mem_append_right _ h
  refine ⟨?_, (C04_offsets_true m _ o n hall).1⟩
  -- the later calls are the scan resumed at the position the earlier calls reached
  have hl := C04_late_observer m before after
  rw [List.flatten_append, Cfg.run_append] at hl
  have hl' := List.append_cancel_left hl
  rw [← hl'] at h
  exact (Cfg.sound_mem (Cfg.run_sound (c := cfgPy m) _ _) h).1

/-! Non-vacuity: a concrete 24-byte message (payload 0, correct CRC) split over three calls with
junk in front is returned once, at offset 3. -/
def c04Example : Bytes :=
  [0x2E, 0x31, 0, 0, 0xF7, 0x1F, 0xA4, 0xC3, 2, 0, 0x10, 0x27, 0, 0, 0, 0, 0, 0, 0, 0, 0, 0, 0, 0]

-- executable sanity check of the model (a test, not a theorem)
#guard (pyFeed 16777216 PyDec.init [[1, 0x2E, 3] ++ c04Example.take 5, c04Example.drop 5, [9]]).1 == [(3, 24)]
-- a late observer (after the first call) sees the message; one arriving after the second call sees nothing more
#guard (pyFeed 16777216 (pyFeed 16777216 PyDec.init [[1, 0x2E, 3] ++ c04Example.take 5]).2 [c04Example.drop 5, [9]]).1 == [(3, 24)]
#guard (pyFeed 16777216 (pyFeed 16777216 PyDec.init [[1, 0x2E, 3] ++ c04Example.take 5, c04Example.drop 5]).2 [[9]]).1 == []

end FeVerif
