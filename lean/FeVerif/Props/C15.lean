/-
C15 — time alignment yields equal-length, time-matched series without altering data.

`align mode req d` is the literal model of `DataLoader.time_align_data(data, mode, message_types = req)`
(FeVerif/Model/Align.lean; tied to data_loader.py by tools/props/c15.py): `d` is the dict as the list of its
entries, `req = none` is `message_types=None`, a time is `some t` (valid) or `none` (NaN), `Msg.orig t id` is
the input object `id`, `Msg.fab t` a default-constructed instance whose `p1_time` was set to `t`.
An entry is *aligned* iff `selected req e` (its class has `p1_time` and it is requested).  In all theorems
`(e, e') ∈ d.zip d'` reads "`e` is an entry of the input and `e'` the entry at the same position of the result".
All statements hold for any number of types, any lists (unsorted, with repeated times, with NaN), any `req`.

Repeated timestamps inside one type: the result shows each time once and keeps the FIRST message with that
time (`C15_duplicates_keep_first`); the later ones are dropped, in INSERT mode too.  "Exactly the timestamps
present in all / in any" is therefore a statement about the SET of times (`IsSortedSet`).

NaN (outside the property's quantifier, stated because the code has the behaviour): DROP never keeps a NaN
entry; INSERT drops every input message with NaN time and, iff some aligned type had one, ends every aligned
type with one fabricated NaN entry (`C15_insert_times`).
-/
import FeVerif.Proofs.Align

namespace FeVerif
open FeVerif.Align

/-- The model refines the specification: it never raises and returns `specAlign`. -/
theorem C15_align_refines_spec (mode : Mode) (req : Option (List Nat)) (d : List Entry) :
    align mode req d = .ok (specAlign mode req d) :=
  align_eq_spec mode req d

/-- No subscript inside `time_align_data` can go out of range. -/
theorem C15_no_exception (mode : Mode) (req : Option (List Nat)) (d : List Entry) :
    ∃ d', align mode req d = .ok d' :=
  ⟨_, align_eq_spec mode req d⟩

/-- The dict keeps its entries, in order; only `messages` can differ. -/
theorem C15_shape {mode : Mode} {req : Option (List Nat)} {d d' : List Entry} (h : align mode req d = .ok d') :
    d'.length = d.length ∧ d'.map Entry.key = d.map Entry.key ∧ d'.map Entry.hasP1 = d.map Entry.hasP1 := by
  rw [align_eq_spec] at h; cases h
  refine ⟨by simp [specAlign], ?_, ?_⟩ <;>
  · rw [specAlign, List.map_map]
    exact List.map_congr_left fun e _ => by simp only [Function.comp]; split <;> rfl

/-- Types excluded from alignment or lacking P1 time are untouched (the very same list of objects). -/
theorem C15_others_untouched {mode : Mode} {req : Option (List Nat)} {d d' : List Entry} {e e' : Entry}
    (h : align mode req d = .ok d') (hp : (e, e') ∈ d.zip d') (hs : selected req e = false) : e' = e := by
  rw [(align_pair h hp).2, hs]; rfl

/-- DROP: every aligned type ends with exactly the times present in ALL aligned types, each once, ascending. -/
theorem C15_drop_times {req : Option (List Nat)} {d d' : List Entry} {e e' : Entry}
    (h : align .drop req d = .ok d') (hp : (e, e') ∈ d.zip d') (hs : selected req e = true) :
    ∃ T : List Int, e'.msgs.map Msg.time = T.map some ∧ IsSortedSet T (InAll req d) := by
  obtain ⟨T, hT, hS⟩ := specTimes_drop_sortedSet (align_pair h hp).1 hs
  exact ⟨T, (aligned_times h hp hs).trans hT, hS⟩

/-- INSERT: every aligned type ends with exactly the times present in SOME aligned type, each once, ascending
(followed by one NaN entry iff some aligned type had a message with NaN time). -/
theorem C15_insert_times {req : Option (List Nat)} {d d' : List Entry} {e e' : Entry}
    (h : align .insert req d = .ok d') (hp : (e, e') ∈ d.zip d') (hs : selected req e = true) :
    ∃ T : List Int, IsSortedSet T (InSome req d) ∧
      ((¬ AnyNaN req d ∧ e'.msgs.map Msg.time = T.map some) ∨
       (AnyNaN req d ∧ e'.msgs.map Msg.time = T.map some ++ [none])) := by
  rw [aligned_times h hp hs]
  exact specTimes_insert_sortedSet req d

/-- The list `T` in the two theorems above is determined by the set it enumerates. -/
theorem C15_sorted_set_unique {a b : List Int} {P : Int → Prop} (ha : IsSortedSet a P) (hb : IsSortedSet b P) :
    a = b :=
  ha.unique hb

/-- All aligned types end with the same number of entries and pairwise equal timestamps. -/
theorem C15_aligned_equal_length {mode : Mode} {req : Option (List Nat)} {d d' : List Entry} {e₁ e₁' e₂ e₂' : Entry}
    (h : align mode req d = .ok d') (hp₁ : (e₁, e₁') ∈ d.zip d') (hp₂ : (e₂, e₂') ∈ d.zip d')
    (hs₁ : selected req e₁ = true) (hs₂ : selected req e₂ = true) :
    e₁'.msgs.length = e₂'.msgs.length ∧ e₁'.msgs.map Msg.time = e₂'.msgs.map Msg.time := by
  have ht : e₁'.msgs.map Msg.time = e₂'.msgs.map Msg.time :=
    (aligned_times h hp₁ hs₁).trans (aligned_times h hp₂ hs₂).symm
  exact ⟨by simpa using congrArg List.length ht, ht⟩

/-- The timestamps of an aligned type are strictly ascending (a NaN entry, at most one, comes last). -/
theorem C15_ascending {mode : Mode} {req : Option (List Nat)} {d d' : List Entry} {e e' : Entry}
    (h : align mode req d = .ok d') (hp : (e, e') ∈ d.zip d') (hs : selected req e = true) :
    (e'.msgs.map Msg.time).Pairwise Time.lt := by
  rw [aligned_times h hp hs]
  exact specTimes_pairwise mode req d

/-- Every entry of an aligned type's result is one of that type's input messages (same time, same identity),
or — in INSERT mode only — a fabricated default instance carrying the slot's time, at a time for which the
type had no message. -/
theorem C15_originals_preserved {mode : Mode} {req : Option (List Nat)} {d d' : List Entry} {e e' : Entry}
    (h : align mode req d = .ok d') (hp : (e, e') ∈ d.zip d') (hs : selected req e = true) :
    ∀ m ∈ e'.msgs, m ∈ e.msgs ∨
      (mode = .insert ∧ m = .fab m.time ∧ (m.time = none ∨ m.time ∉ p1Times e)) := by
  rw [aligned_msgs h hp hs]
  intro m hm
  obtain ⟨t, ht, rfl⟩ := List.mem_map.1 hm
  rw [time_pick]
  rcases pick_cases e.msgs t with hin | ⟨hfab, hno⟩
  · exact Or.inl hin
  · refine Or.inr ⟨?_, hfab, hno⟩
    cases mode with
    | insert => rfl
    | drop =>
      -- in DROP mode every slot time is a valid time of this very type
      have he := (align_pair h hp).1
      obtain ⟨T, hT, hS⟩ := specTimes_drop_sortedSet he hs
      rw [hT] at ht
      obtain ⟨v, hv, rfl⟩ := List.mem_map.1 ht
      exact absurd ((hS.2 v).1 hv e he hs) (hno.resolve_left (by simp))

/-- In particular: a non-fabricated entry of the result is an input `(time, identity)` of that type. -/
theorem C15_survivors_are_inputs {mode : Mode} {req : Option (List Nat)} {d d' : List Entry} {e e' : Entry}
    (h : align mode req d = .ok d') (hp : (e, e') ∈ d.zip d') (hs : selected req e = true)
    (t : Time) (id : Nat) (hm : Msg.orig t id ∈ e'.msgs) : Msg.orig t id ∈ e.msgs := by
  rcases C15_originals_preserved h hp hs _ hm with h1 | ⟨_, h2, _⟩
  · exact h1
  · cases h2

/-- DROP fabricates nothing. -/
theorem C15_drop_only_originals {req : Option (List Nat)} {d d' : List Entry} {e e' : Entry}
    (h : align .drop req d = .ok d') (hp : (e, e') ∈ d.zip d') (hs : selected req e = true) :
    ∀ m ∈ e'.msgs, m ∈ e.msgs := by
  intro m hm
  rcases C15_originals_preserved h hp hs m hm with h1 | ⟨h2, _⟩
  · exact h1
  · cases h2

/-- Repeated timestamps: at a (valid) time the type has a message for, the result shows the FIRST input
message with that time; together with `C15_ascending` no other message with that time survives. -/
theorem C15_duplicates_keep_first {mode : Mode} {req : Option (List Nat)} {d d' : List Entry} {e e' : Entry}
    (h : align mode req d = .ok d') (hp : (e, e') ∈ d.zip d') (hs : selected req e = true) :
    ∀ m ∈ e'.msgs, ∀ v : Int, m.time = some v → some v ∈ p1Times e →
      e.msgs.find? (fun x => x.time == some v) = some m := by
  rw [aligned_msgs h hp hs]
  intro m hm v hv hin
  obtain ⟨t, _, rfl⟩ := List.mem_map.1 hm
  rw [time_pick] at hv; subst hv
  exact pick_of_mem hin

/-- Nothing else is lost: for every time on the result's axis that the type has a message for, that type's first
message with the time is in the result (with `C15_drop_times` / `C15_insert_times`: DROP keeps the first message
of every common time, INSERT the first message of every valid time of the type). -/
theorem C15_first_occurrences_survive {mode : Mode} {req : Option (List Nat)} {d d' : List Entry} {e e' : Entry}
    (h : align mode req d = .ok d') (hp : (e, e') ∈ d.zip d') (hs : selected req e = true)
    (v : Int) (hv : some v ∈ e'.msgs.map Msg.time) (m : Msg)
    (hm : e.msgs.find? (fun x => x.time == some v) = some m) : m ∈ e'.msgs := by
  rw [aligned_times h hp hs] at hv
  rw [aligned_msgs h hp hs]
  exact List.mem_map.2 ⟨some v, hv, by simp only [pick, hm]⟩

/-! ### Histories: several alignments of the same dict

Every theorem above is about ONE call on ARBITRARY lists, so it applies to each call of a history with `d` the
lists the previous call left (fabricated messages of earlier calls included).  The two statements below say that
a history is nothing but that: no call raises, and the result is the one-call specification applied call by
call - there is no state other than the message lists (in particular none derived from a numeric conversion
made before or between the calls). -/

/-- A history of calls never raises and computes the one-call specification applied step by step. -/
theorem C15_history_refines_spec (calls : List Call) (d : List Entry) :
    alignSeq calls d = .ok (specAlignSeq calls d) := by
  induction calls generalizing d with
  | nil => rfl
  | cons c cs ih =>
    rw [alignSeq_cons, align_eq_spec]
    exact ih (specAlign c.mode c.req d)

/-- Appending a call to a history: the new call sees exactly the lists the history produced. -/
theorem C15_history_step (calls : List Call) (c : Call) (d : List Entry) :
    alignSeq (calls ++ [c]) d = (alignSeq calls d).bind (align c.mode c.req) := by
  rw [alignSeq_append]
  congr 1
  funext d'
  exact List.foldlM_cons.trans (bind_pure _)

/-! ### The hypotheses are satisfiable, the statements are not vacuous -/

/-- three types with P1 time (one requested but unsorted with a repeated time and a NaN), one without -/
def C15_demo : List Entry :=
  [ { key := 1, hasP1 := true, msgs := [.orig (some 3) 0, .orig (some 1) 1, .orig (some 1) 2, .orig none 3, .orig (some 2) 4] },
    { key := 2, hasP1 := true, msgs := [.orig (some 2) 0, .orig (some 3) 1, .orig (some 5) 2] },
    { key := 3, hasP1 := false, msgs := [.orig none 0] },
    { key := 4, hasP1 := true, msgs := [.orig (some 9) 0] } ]

example : align .drop (some [1, 2, 3]) C15_demo = .ok
    [ { key := 1, hasP1 := true, msgs := [.orig (some 2) 4, .orig (some 3) 0] },
      { key := 2, hasP1 := true, msgs := [.orig (some 2) 0, .orig (some 3) 1] },
      { key := 3, hasP1 := false, msgs := [.orig none 0] },
      { key := 4, hasP1 := true, msgs := [.orig (some 9) 0] } ] := by rfl

example : align .insert (some [1, 2, 3]) C15_demo = .ok
    [ { key := 1, hasP1 := true, msgs := [.orig (some 1) 1, .orig (some 2) 4, .orig (some 3) 0, .fab (some 5), .fab none] },
      { key := 2, hasP1 := true, msgs := [.fab (some 1), .orig (some 2) 0, .orig (some 3) 1, .orig (some 5) 2, .fab none] },
      { key := 3, hasP1 := false, msgs := [.orig none 0] },
      { key := 4, hasP1 := true, msgs := [.orig (some 9) 0] } ] := by rfl

/-- DROP over types 1, 2 and then DROP over types 1, 4: type 1 ends empty, type 2 keeps the first result -/
example : alignSeq [⟨.drop, some [1, 2]⟩, ⟨.drop, some [1, 4]⟩] C15_demo = .ok
    [ { key := 1, hasP1 := true, msgs := [] },
      { key := 2, hasP1 := true, msgs := [.orig (some 2) 0, .orig (some 3) 1] },
      { key := 3, hasP1 := false, msgs := [.orig none 0] },
      { key := 4, hasP1 := true, msgs := [] } ] := by rfl

/-- INSERT over types 2, 4 and then DROP over types 1, 2: the message fabricated by the first call does not survive -/
example : alignSeq [⟨.insert, some [2, 4]⟩, ⟨.drop, some [1, 2]⟩] C15_demo = .ok
    [ { key := 1, hasP1 := true, msgs := [.orig (some 2) 4, .orig (some 3) 0] },
      { key := 2, hasP1 := true, msgs := [.orig (some 2) 0, .orig (some 3) 1] },
      { key := 3, hasP1 := false, msgs := [.orig none 0] },
      { key := 4, hasP1 := true, msgs := [.fab (some 2), .fab (some 3), .fab (some 5), .orig (some 9) 0] } ] := by rfl

example : InAll (some [1, 2, 3]) C15_demo 2 ∧ ¬ InAll (some [1, 2, 3]) C15_demo 1 ∧ InSome (some [1, 2, 3]) C15_demo 5 ∧
    AnyNaN (some [1, 2, 3]) C15_demo := by
  unfold InAll InSome AnyNaN
  decide

end FeVerif
