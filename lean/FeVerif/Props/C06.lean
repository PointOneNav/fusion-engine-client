/-
C06 — encoder output validates, corruption is rejected, CRCs agree.

Objects (all executable, tied to /repo by tools/props/c06.py):
* `crcBitwise`, `crcByteSpec`, `crcShift` (Model/Crc32.lean): the bit-serial CRC-32 specification;
* `crcTable`, `crcUpdate`, `crc32 init bs` (Model/Crc32.lean): crc.cc's table algorithm
  `CalculateCRC(buffer, length, initial_value)`, which is also how `zlib.crc32(data, value)` is used;
* `encodeMessage`, `encodeAll`, `pyPackMessage` (Model/Encoder.lean): `FusionEngineEncoder.encode_message`,
  `MessageHeader.pack(payload=…)`, `calculate_crc`;  `cxxCalculateCRC`, `cxxIsValid`, `cxxFramerCrcOk`:
  `CalculateCRC(const void*)`, `IsValid()`, the framer's CRC comparison;
* `pyCrcOk` (Model/Header.lean): `MessageHeader.validate_crc`; `cfgPy m` / `pyFeed`: the Python stream
  decoder (C04);
* `crcLin`, `crcBits`, `IsBurst`, `flipPattern`, `xorBytes` (Spec/CrcBits.lean), `ExactMsg`, `CrcMatches`,
  `corruptProtected`, `replaceCrcField` (Spec/Integrity.lean): the vocabulary of the corruption clauses.

Reading of "burst … of the CRC-protected region or of the CRC field": the altered bits lie inside ONE
of the two regions.  A run of ≤ 32 altered bits straddling byte 7|8 is not a burst of the code (the CRC
field sits in front of the data it protects) and is not claimed.

What is proved: (a) table algorithm = bit-serial CRC-32 for every buffer and initial value; (b) incremental
use at every split point, Python's two-step CRC = C++ `CalculateCRC(message)`; (c) every in-range
`encode_message` call yields a message with the right fields that all validators accept, failing calls
leave the sequence number alone, produced messages are numbered consecutively modulo 2^32 over any
sequence of calls, every message of a call history carries the source identifier given to its own call (0 when
omitted; `C06_encoder_call_fields`), a refused call leaves the encoder unchanged and a history leaves nothing
behind but the count of produced messages (`C06_encoder_state_counts_messages`); (d) affine law, every burst ≤ 32 bits and every alteration of the CRC field is rejected
by `validate_crc`, `IsValid`, the framer's comparison and the Python stream decoder; (e) the polynomial
has period 2^32 - 1, hence two altered bits at ANY distance (both in the protected region, both in the CRC
field, or one in each) are rejected; (f) `C06_oversize_rejected`: for every value of the size field that puts
the message above the limit (up to 24 + (2^32 - 1), no wrap-around) `IsValid` answers false from the header
alone and the Python validator / decoder refuse it.

What does NOT hold, and why (`C06_size_field_flip_accepted`, `C06_burst_rejected_full_fails`): when the
alteration hits the `payload_size_bytes` field the validators compute the CRC over a different extent, and
for suitably chosen payload bytes a one-bit alteration of that field yields another CRC-valid (shorter)
message.  The rejection theorems for the protected region therefore carry the hypothesis that the
announced payload size is unchanged; alterations of the size field are exercised on the implementation
by the harness (a test; the crafted counterexample is listed in KNOWN_FINDINGS.txt).
-/
import FeVerif.Proofs.Integrity
import FeVerif.Proofs.Encoder
import FeVerif.Proofs.CrcTwoBit
import FeVerif.Props.C04

namespace FeVerif

/-! ## (a) The table algorithm computes the bit-serial CRC-32 -/

/-- `crc_table` has 256 entries and entry `i` is eight bit-serial steps applied to `i`
(the loop of `GetCRCTable()`). -/
theorem C06_table_correct :
    crcTable.size = 256 ∧ ∀ i, i < 256 → crcTable[i]? = some (crcShift8 (BitVec.ofNat 32 i)) := by
  refine ⟨by simp [crcTable], ?_⟩
  intro i hi
  simp [crcTable, hi, crcTableGen]

/-- One table step `crc_table[(c ^ b) & 0xFF] ^ (c >> 8)` equals xoring the byte into the register and
doing eight bit-serial steps — for every register value and byte. -/
theorem C06_table_step_eq_bit_steps (c : W32) (b : Byte) : crcUpdate c b = crcByteSpec c b :=
  crcUpdate_eq_spec c b

/-- `CalculateCRC(buffer, length, initial_value)` = bit-serial CRC-32 continued from `initial_value`, for
every buffer and every initial value. -/
theorem C06_table_crc_eq_spec (init : W32) (bs : Bytes) :
    crc32 init bs = ~~~ (bs.foldl crcByteSpec (~~~ init)) :=
  crc32_eq_spec init bs

/-- With the default initial value 0 the routine is the CRC-32 specification. -/
theorem C06_crc32_eq_bitwise (bs : Bytes) : crc32 0#32 bs = crcBitwise bs := by
  rw [crc32_eq_spec]; rfl

/-! ## (b) Incremental computation; Python's two-step CRC = C++ `CalculateCRC(message)` -/

/-- Feeding a buffer in two pieces, passing the first result as `initial_value` / `value`, gives the
CRC of the whole — at every split point, for every initial value. -/
theorem C06_crc_incremental (init : W32) (a b : Bytes) :
    crc32 init (a ++ b) = crc32 (crc32 init a) b :=
  crc32_append init a b

/-- `calculate_crc`'s `crc32(header[8:])` then `crc32(payload, crc)` equals C++
`CalculateCRC(const void*)` on the header followed by the payload (whenever the header announces
that payload's length). -/
theorem C06_py_crc_eq_cxx_crc (hdr payload : Bytes) (hl : hdr.length = HDR)
    (hs : u32le hdr 16 = payload.length) :
    cxxCalculateCRC (hdr ++ payload) = some (crc32 (crc32 0#32 (hdr.drop 8)) payload) := by
  have hex : ExactMsg (hdr ++ payload) := by
    unfold ExactMsg; rw [u32le_append (by rw [hl]; decide), hs, List.length_append, hl]
  rw [cxxCalculateCRC_exact hex, List.drop_append_of_le_length (by rw [hl]; decide), crc32_append]

/-! ## (c) The encoder -/

/-- A call whose arguments fit the header's wire types returns `24 + |payload|` bytes that parse to
the payload's type and version, the encoder's sequence number, the given source identifier,
`payload_size = |payload|`, the sync bytes, zero reserved bytes and protocol version 2, followed by
the payload unchanged; `validate_crc` and the Python decoder accept them (payload within the limits),
`IsValid` accepts them (message within its limit), the framer's CRC comparison succeeds; and the
encoder's sequence number advances by one modulo 2^32. -/
theorem C06_encoder_valid (e : Encoder) (type version source : Nat) (p : Bytes)
    (hfit : EncFits e type version source p) :
    ∃ out, encodeMessage e type version source (some p) =
        (.ok out, ⟨(e.sequenceNumber + 1) % 4294967296⟩) ∧
      out.length = HDR + p.length ∧ out.drop HDR = p ∧
      (parseHeader out).messageType = type ∧ (parseHeader out).messageVersion = version ∧
      (parseHeader out).sequenceNumber = e.sequenceNumber ∧ (parseHeader out).sourceId = source ∧
      (parseHeader out).payloadSize = p.length ∧ (parseHeader out).sync0 = 0x2E ∧
      (parseHeader out).sync1 = 0x31 ∧ (parseHeader out).reserved = 0 ∧
      (parseHeader out).protocolVersion = 2 ∧
      ExactMsg out ∧ CrcMatches out ∧
      (p.length ≤ MAX_EXPECTED → pyCrcOk out = true ∧ pyUnpackValidate out = some true) ∧
      (∀ m, p.length ≤ m → p.length ≤ MAX_EXPECTED → (cfgPy m).step out = .emit out.length) ∧
      (HDR + p.length ≤ MAX_EXPECTED → cxxIsValid out = some true) ∧
      cxxFramerCrcOk out = true := by
  have hp := parseHeader_encOutput hfit
  have hlen : (encOutput e type version source p).length = HDR + p.length := encOutput_length
  have hdrop : (encOutput e type version source p).drop HDR = p := encOutput_drop
  have hex := exactMsg_encOutput hfit
  have hcm := crcMatches_encOutput hfit
  refine ⟨encOutput e type version source p, encodeMessage_ok hfit, ?_⟩
  generalize encOutput e type version source p = out at *
  have hsz : u32le out 16 = p.length := congrArg Header.payloadSize hp
  rw [hp]
  refine ⟨hlen, hdrop, rfl, rfl, rfl, rfl, rfl, rfl, rfl, rfl, rfl, hex, hcm, ?_, ?_, ?_, ?_⟩
  · intro hm
    rw [pyCrcOk_exact hex, pyUnpackValidate_exact hex, hsz]
    simp [hm, hcm]
  · intro m hm hmax
    rw [C04_accept_criteria, hsz, List.take_length]
    exact ⟨by omega, congrArg Header.sync0 hp, congrArg Header.sync1 hp, congrArg Header.reserved hp, hm, hlen,
      Nat.le_refl _, hmax, hcm⟩
  · intro hm
    rw [cxxIsValid_exact hex, hsz]
    simp [hm, hcm]
  · rw [cxxFramerCrcOk_exact hex]
    exact decide_eq_true hcm

/-- A call with an argument outside its wire type (or whose `message.pack()` raises) produces no
bytes and leaves the sequence number untouched. -/
theorem C06_encoder_failure_keeps_sequence (e : Encoder) (type version source : Nat) :
    (∀ p, ¬ EncFits e type version source p →
      encodeMessage e type version source (some p) = (.error .structError, e)) ∧
    encodeMessage e type version source none = (.error .packError, e) :=
  ⟨fun _ h => encodeMessage_err h, rfl⟩

/-- Over any sequence of calls (any arguments, failing calls included, any starting state) the
messages actually produced carry consecutive sequence numbers modulo 2^32, starting from the
encoder's current one. -/
theorem C06_encoder_sequence (e : Encoder) (calls : List EncCall) :
    (okOutputs (encodeAll e calls)).map (fun o => (parseHeader o).sequenceNumber) =
      (List.range (okOutputs (encodeAll e calls)).length).map
        (fun i => (e.sequenceNumber + i) % 4294967296) := by
  induction calls generalizing e with
  | nil => rfl
  | cons c cs ih =>
    rcases encodeCall_cases e c with ⟨x, hx⟩ | ⟨s, p, -, -, hfit, hok⟩
    · rw [okOutputs_cons_err hx]; exact ih e
    · have hseq : (parseHeader (encOutput e c.type c.version s p)).sequenceNumber = e.sequenceNumber :=
        congrArg Header.sequenceNumber (parseHeader_encOutput hfit)
      rw [okOutputs_cons_ok hok, List.map_cons, hseq, ih, List.length_cons, List.range_succ_eq_map, List.map_cons,
        List.map_map]
      refine congrArg₂ List.cons (Nat.mod_eq_of_lt hfit.1).symm (List.map_congr_left fun i _ => ?_)
      show ((e.sequenceNumber + 1) % 4294967296 + i) % 4294967296 = (e.sequenceNumber + (i + 1)) % 4294967296
      omega

/-- A call as a caller writes it (source identifier given, omitted, or negative; payload packing or raising)
that is refused leaves the encoder object exactly as it was. -/
theorem C06_encoder_refused_keeps_state (e : Encoder) (c : EncCall) (x : PyErr)
    (h : (encodeCall e c).1 = .error x) : (encodeCall e c).2 = e := by
  rcases encodeCall_cases e c with ⟨y, hy⟩ | ⟨s, p, -, -, -, hok⟩
  · rw [hy]
  · rw [hok] at h; cases h

/-- Every message produced anywhere in a history of calls on one encoder carries the source identifier GIVEN
TO THAT CALL - 0 when the call omits the argument, whatever earlier calls were given - together with the
type, version and payload bytes of that call's payload object.  (Call `i` of the history produced `out`.) -/
theorem C06_encoder_call_fields (e : Encoder) (calls : List EncCall) (i : Nat) (c : EncCall) (out : Bytes)
    (hc : calls[i]? = some c) (ho : (encodeAll e calls)[i]? = some (.ok out)) :
    ((parseHeader out).sourceId : Int) = c.source.getD 0 ∧
    (parseHeader out).messageType = c.type ∧ (parseHeader out).messageVersion = c.version ∧
    c.payload = some (out.drop HDR) ∧ (parseHeader out).payloadSize = (out.drop HDR).length := by
  induction calls generalizing e i with
  | nil => simp at hc
  | cons c0 cs ih =>
    cases i with
    | succ j => exact ih (encodeCall e c0).2 j (by simpa using hc) (by simpa [encodeAll] using ho)
    | zero =>
      have hc0 : c0 = c := by simpa using hc
      subst hc0
      have ho' : (encodeCall e c0).1 = .ok out := by simpa [encodeAll] using ho
      rcases encodeCall_cases e c0 with ⟨y, hy⟩ | ⟨s, p, hs, hp, hfit, hok⟩
      · rw [hy] at ho'; cases ho'
      · rw [hok] at ho'
        obtain rfl : encOutput e c0.type c0.version s p = out := Except.ok.inj ho'
        rw [encOutput_drop, parseHeader_encOutput hfit, hp]
        exact ⟨hs.symm, rfl, rfl, rfl, rfl⟩

/-- The labels of a message do not depend on what the encoder object was given before.  The same call at the end of
any two histories, on any two encoder objects, yields - whenever it produces a message at all - the type and version
of ITS payload object, and the same source identifier, payload size and payload bytes in both; only the sequence
number (and with it the CRC) may differ.  In particular a payload whose class derives from the class of the previous
call's payload goes out under its own type, exactly as it does on a fresh encoder. -/
theorem C06_encoder_labels_independent_of_history (e₁ e₂ : Encoder) (pre₁ pre₂ : List EncCall) (c : EncCall)
    (o₁ o₂ : Bytes)
    (h₁ : (encodeAll e₁ (pre₁ ++ [c]))[pre₁.length]? = some (.ok o₁))
    (h₂ : (encodeAll e₂ (pre₂ ++ [c]))[pre₂.length]? = some (.ok o₂)) :
    (parseHeader o₁).messageType = c.type ∧ (parseHeader o₁).messageVersion = c.version ∧
    (parseHeader o₂).messageType = c.type ∧ (parseHeader o₂).messageVersion = c.version ∧
    (parseHeader o₁).sourceId = (parseHeader o₂).sourceId ∧
    (parseHeader o₁).payloadSize = (parseHeader o₂).payloadSize ∧ o₁.drop HDR = o₂.drop HDR := by
  have hc₁ : (pre₁ ++ [c])[pre₁.length]? = some c := by simp
  have hc₂ : (pre₂ ++ [c])[pre₂.length]? = some c := by simp
  obtain ⟨s1, t1, v1, p1, z1⟩ := C06_encoder_call_fields e₁ _ _ c o₁ hc₁ h₁
  obtain ⟨s2, t2, v2, p2, z2⟩ := C06_encoder_call_fields e₂ _ _ c o₂ hc₂ h₂
  have hp : o₁.drop HDR = o₂.drop HDR := Option.some.inj (p1.symm.trans p2)
  refine ⟨t1, v1, t2, v2, ?_, ?_, hp⟩
  · have := s1.trans s2.symm
    omega
  · rw [z1, z2, hp]

/-- The only thing a history of calls leaves behind in the encoder object is the NUMBER of messages it
produced: the state after the history is the starting sequence number advanced by that count modulo 2^32
(so a later call cannot depend on the source identifiers, types or payloads of earlier calls, nor on the
refused calls in between). -/
theorem C06_encoder_state_counts_messages (e : Encoder) (h : e.sequenceNumber < 4294967296)
    (calls : List EncCall) :
    encodeState e calls =
      ⟨(e.sequenceNumber + (okOutputs (encodeAll e calls)).length) % 4294967296⟩ := by
  induction calls generalizing e with
  | nil =>
    show e = ⟨(e.sequenceNumber + 0) % 4294967296⟩
    rw [Nat.add_zero, Nat.mod_eq_of_lt h]
  | cons c cs ih =>
    show encodeState (encodeCall e c).2 cs = _
    rcases encodeCall_cases e c with ⟨x, hx⟩ | ⟨s, p, -, -, -, hok⟩
    · rw [okOutputs_cons_err hx, hx]; exact ih e h
    · rw [okOutputs_cons_ok hok, hok, ih _ (Nat.mod_lt _ (by decide)), List.length_cons]
      congr 1
      show ((e.sequenceNumber + 1) % 4294967296 + _) % 4294967296 = _
      omega

/-- A history splits at any point: the results of the calls after the split are those of the same calls on
the encoder state the first part left. -/
theorem C06_encoder_history_split (e : Encoder) (pre post : List EncCall) :
    encodeAll e (pre ++ post) = encodeAll e pre ++ encodeAll (encodeState e pre) post := by
  induction pre generalizing e with
  | nil => rfl
  | cons c cs ih =>
    show (encodeCall e c).1 :: encodeAll (encodeCall e c).2 (cs ++ post) = _
    rw [ih]; rfl

/-! ## (d) Error detection -/

/-- Affine law: xoring an error pattern onto a buffer changes the CRC by the pattern's linear
remainder, whatever the buffer and the initial value. -/
theorem C06_crc_affine (init : W32) (a e : Bytes) (h : a.length = e.length) :
    crc32 init (xorBytes a e) = crc32 init a ^^^ crcLin e :=
  crc32_xor init a e h

/-- The linear remainder is the register after feeding the pattern's bits into a zero register. -/
theorem C06_crcLin_bits (e : Bytes) : crcLin e = crcBits 0#32 (bitsOf e) := crcLin_eq_bits e

/-- A non-zero error pattern confined to at most 32 consecutive bit positions has a non-zero linear
remainder. -/
theorem C06_burst_detected (e : Bytes) (h : IsBurst (bitsOf e)) : crcLin e ≠ 0#32 := by
  rw [crcLin_eq_bits]; exact crcBits_burst_ne_zero h

/-- Hence such a pattern changes the CRC of every buffer, for every initial value. -/
theorem C06_burst_changes_crc (init : W32) (a e : Bytes) (hl : a.length = e.length)
    (h : IsBurst (bitsOf e)) : crc32 init (xorBytes a e) ≠ crc32 init a := by
  rw [crc32_xor init a e hl]
  exact fun h' => C06_burst_detected e h (xor_eq_left.1 h')

/-- Every single-bit flip (bit `k` of byte `i` of an `n`-byte buffer) is such a pattern. -/
theorem C06_single_bit_is_burst (n i k : Nat) (hi : i < n) (hk : k < 8) :
    IsBurst (bitsOf (flipPattern n i k)) :=
  ⟨8 * i + k, [true], (7 - k) + 8 * (n - (i + 1)), bitsOf_flipPattern n i k hi hk, by simp, by simp⟩

/-- All three validators reduce, on an exactly framed message, to the same CRC comparison (plus their
respective size sanity limits). -/
theorem C06_validators_agree (msg : Bytes) (h : ExactMsg msg) :
    pyUnpackValidate msg = some (decide (u32le msg 16 ≤ MAX_EXPECTED) && decide (CrcMatches msg)) ∧
    pyCrcOk msg = (decide (u32le msg 16 ≤ MAX_EXPECTED) && decide (CrcMatches msg)) ∧
    cxxIsValid msg = some (decide (HDR + u32le msg 16 ≤ MAX_EXPECTED) && decide (CrcMatches msg)) ∧
    cxxFramerCrcOk msg = decide (CrcMatches msg) :=
  ⟨pyUnpackValidate_exact h, pyCrcOk_exact h, cxxIsValid_exact h, cxxFramerCrcOk_exact h⟩

/-- Corruption of the protected region, general form: a message accepted by the CRC comparison,
altered inside bytes `[8, end)` by any pattern with a non-zero linear remainder that leaves the
announced payload size intact, is rejected by `unpack(validate_crc=True)` / `validate_crc`, by `IsValid`
and by the framer's CRC comparison. -/
theorem C06_error_rejected (msg e : Bytes) (hex : ExactMsg msg) (hm : CrcMatches msg)
    (he : e.length = msg.length - 8) (hl : crcLin e ≠ 0#32)
    (hsz : u32le (corruptProtected msg e) 16 = u32le msg 16) :
    pyUnpackValidate (corruptProtected msg e) = some false ∧
    pyCrcOk (corruptProtected msg e) = false ∧ cxxIsValid (corruptProtected msg e) = some false ∧
    cxxFramerCrcOk (corruptProtected msg e) = false :=
  rejected_of_not_matches (exactMsg_corruptProtected hex he hsz) (corruptProtected_not_matches hex he hm hl)

/-- Bursts: any non-zero alteration confined to at most 32 consecutive bit positions of the protected
region (in particular any single bit, or two bits fewer than 32 positions apart). -/
theorem C06_burst_rejected (msg e : Bytes) (hex : ExactMsg msg) (hm : CrcMatches msg)
    (he : e.length = msg.length - 8) (hb : IsBurst (bitsOf e))
    (hsz : u32le (corruptProtected msg e) 16 = u32le msg 16) :
    pyUnpackValidate (corruptProtected msg e) = some false ∧
    pyCrcOk (corruptProtected msg e) = false ∧ cxxIsValid (corruptProtected msg e) = some false ∧
    cxxFramerCrcOk (corruptProtected msg e) = false :=
  C06_error_rejected msg e hex hm he (C06_burst_detected e hb) hsz

/-- Corruption of the CRC field: replacing the stored CRC by any other four bytes (any bit pattern
altered within bytes `[4, 8)`) is rejected by all three validators. -/
theorem C06_crc_field_flip_detected (msg f : Bytes) (hex : ExactMsg msg) (hm : CrcMatches msg)
    (hf : f.length = 4) (hne : f ≠ (msg.drop 4).take 4) :
    pyUnpackValidate (replaceCrcField msg f) = some false ∧
    pyCrcOk (replaceCrcField msg f) = false ∧ cxxIsValid (replaceCrcField msg f) = some false ∧
    cxxFramerCrcOk (replaceCrcField msg f) = false :=
  rejected_of_not_matches (exactMsg_replaceCrcField hex hf) (replaceCrcField_not_matches hex hf hne hm)

/-- The stream decoder (C04) returns no message at the position of an exactly framed candidate that
fails the CRC comparison — whatever precedes or follows it, however the stream is chunked, for every
`max_payload_len_bytes`. -/
theorem C06_decoder_rejects_corrupt (m : Nat) (chunks : List Bytes) (pre bad post : Bytes)
    (hs : chunks.flatten = pre ++ bad ++ post) (hex : ExactMsg bad) (hn : ¬ CrcMatches bad) (n : Nat) :
    (pre.length, n) ∉ (pyFeed m PyDec.init chunks).1 := by
  intro hmem
  have h := (C04_offsets_true m chunks pre.length n hmem).2
  rw [hs, List.append_assoc, List.drop_left] at h
  rw [C04_accept_criteria] at h
  obtain ⟨h24, -, -, -, -, hnn, -, -, hcrc⟩ := h
  rw [u32le_append (by have := hex.le; unfold HDR at this; omega)] at hnn hcrc
  have hnb : n = bad.length := by rw [hnn]; exact hex.symm
  rw [hnb, List.take_left] at hcrc
  exact hn hcrc

/-! ## (e) Two flipped bits at any distance -/

/-- The zero-feed step of the register returns the polynomial's bit pattern to itself after exactly
2^32 - 1 steps and not before (the CRC-32 polynomial is primitive).  The kernel evaluates the powers of `x`
modulo the polynomial for the exponents 2^32 - 1 and (2^32 - 1)/q, q ∈ {3, 5, 17, 257, 65537}. -/
theorem C06_polynomial_period : Function.minimalPeriod crcShift crcPoly = 4294967295 :=
  minimalPeriod_crcPoly

/-- Two altered bits any distance `d` apart, `0 < d < 2^32 - 1` (any two bits of a buffer shorter than
512 MiB), have a non-zero linear remainder. -/
theorem C06_two_bit_detected (e : Bytes) (h : TwoBits (bitsOf e)) : crcLin e ≠ 0#32 := by
  rw [crcLin_eq_bits]; exact crcBits_twoBits_ne_zero h

/-- Both altered bits in the protected region (size field untouched): rejected by every validator. -/
theorem C06_two_bit_rejected (msg e : Bytes) (hex : ExactMsg msg) (hm : CrcMatches msg)
    (he : e.length = msg.length - 8) (hb : TwoBits (bitsOf e))
    (hsz : u32le (corruptProtected msg e) 16 = u32le msg 16) :
    pyUnpackValidate (corruptProtected msg e) = some false ∧
    pyCrcOk (corruptProtected msg e) = false ∧ cxxIsValid (corruptProtected msg e) = some false ∧
    cxxFramerCrcOk (corruptProtected msg e) = false :=
  C06_error_rejected msg e hex hm he (C06_two_bit_detected e hb) hsz

/-- One altered bit in the stored CRC (bit `m` of the 32-bit field) and one in the protected region (bit
`k` of byte `8 + i`, size field untouched) of a message within the validators' size limit: rejected by
every validator.  (Both altered bits inside the CRC field is `C06_crc_field_flip_detected`.) -/
theorem C06_two_bit_cross_rejected (msg f : Bytes) (i k m : Nat) (hex : ExactMsg msg) (hm : CrcMatches msg)
    (hi : i < msg.length - 8) (hk : k < 8) (hm32 : m < 32) (hf : f.length = 4)
    (hflip : BitVec.ofNat 32 (u32le f 0) = BitVec.ofNat 32 (u32le msg 4) ^^^ (1#32 <<< m))
    (hmax : u32le msg 16 ≤ MAX_EXPECTED)
    (hsz : u32le (corruptProtected msg (flipPattern (msg.length - 8) i k)) 16 = u32le msg 16) :
    pyUnpackValidate (replaceCrcField (corruptProtected msg (flipPattern (msg.length - 8) i k)) f) = some false ∧
    cxxIsValid (replaceCrcField (corruptProtected msg (flipPattern (msg.length - 8) i k)) f) = some false ∧
    cxxFramerCrcOk (replaceCrcField (corruptProtected msg (flipPattern (msg.length - 8) i k)) f) = false := by
  have he := flipPattern_length (msg.length - 8) i k
  have hex' := exactMsg_replaceCrcField (exactMsg_corruptProtected hex he hsz) hf
  have hbound : 8 * (msg.length - 8) + 32 < 4294967295 := by
    have : msg.length = HDR + u32le msg 16 := hex
    unfold HDR MAX_EXPECTED at *; omega
  have r := rejected_of_not_matches hex' fun h => by
    -- the stored CRC would have to move by the pattern's linear remainder, and that is not a single bit
    have hmove := crcLin_of_altered_matches hex he hf hm h
    rw [hflip] at hmove
    exact crcLin_flipPattern_ne_bit hi hk hm32 hbound ((BitVec.xor_right_inj _).1 hmove.symm)
  exact ⟨r.1, r.2.2.1, r.2.2.2⟩

/-! ## The size field: what does not hold -/

/-- The rejection theorem needs its hypothesis that the announced payload size is unchanged: for the
crafted message `c06Crafted` (accepted by every validator) the single-bit flip of bit 2 of byte 16 is
accepted by `unpack(validate_crc=True)`, by `IsValid`, by the framer's comparison once it has collected
the 32 bytes the altered header announces, and by the Python decoder's scan, which emits a 32-byte
message at that position. -/
theorem C06_size_field_flip_accepted :
    ExactMsg c06Crafted ∧ CrcMatches c06Crafted ∧ pyUnpackValidate c06Crafted = some true ∧
    (flipPattern 28 8 2).length = c06Crafted.length - 8 ∧ IsBurst (bitsOf (flipPattern 28 8 2)) ∧
    corruptProtected c06Crafted (flipPattern 28 8 2) ≠ c06Crafted ∧
    pyUnpackValidate (corruptProtected c06Crafted (flipPattern 28 8 2)) = some true ∧
    cxxIsValid (corruptProtected c06Crafted (flipPattern 28 8 2)) = some true ∧
    cxxFramerCrcOk ((corruptProtected c06Crafted (flipPattern 28 8 2)).take 32) = true ∧
    (cfgPy 16777216).step (corruptProtected c06Crafted (flipPattern 28 8 2)) = .emit 32 := by
  have hcm : CrcMatches c06Crafted := (crcMatches_iff_bitwise _).2 (by decide +kernel)
  have hcm' : CrcMatches ((corruptProtected c06Crafted (flipPattern 28 8 2)).take 32) :=
    (crcMatches_iff_bitwise _).2 (by decide +kernel)
  have a := accepted_of_extent (msg := c06Crafted) (by decide) (by decide) hcm
  have b := accepted_of_extent (msg := corruptProtected c06Crafted (flipPattern 28 8 2)) (by decide) (by decide) hcm'
  refine ⟨by decide, hcm, a.1, by decide, C06_single_bit_is_burst 28 8 2 (by decide) (by decide), by decide,
    b.1, b.2.1, b.2.2, ?_⟩
  rw [C04_accept_criteria]
  exact ⟨by decide, by decide, by decide, by decide, by decide, by decide, by decide, by decide,
    Eq.trans hcm' (u32le_take (show 4 + 3 < 32 by decide))⟩

/-- Hence the statement "every burst on the protected region of a valid message is rejected", without
the size hypothesis, is false. -/
theorem C06_burst_rejected_full_fails :
    ¬ ∀ msg e : Bytes, ExactMsg msg → CrcMatches msg → e.length = msg.length - 8 → IsBurst (bitsOf e) →
      pyUnpackValidate (corruptProtected msg e) = some false := by
  intro h
  have w := C06_size_field_flip_accepted
  have := h c06Crafted (flipPattern 28 8 2) w.1 w.2.1 w.2.2.2.1 w.2.2.2.2.1
  rw [w.2.2.2.2.2.2.1] at this
  cases this

/-! ## The size field: what holds for every value of it -/

/-- The size sanity limits are decided on the 24 header bytes alone and for EVERY value of the 32-bit
`payload_size_bytes` field, the values next to 2^32 included (the sum `24 + payload_size_bytes` is formed
without wrap-around): on any buffer that holds at least a header announcing a message above the limit,
`IsValid` answers false and reads nothing behind the header (the model's answer is never `none`, "would
read outside the buffer"), `unpack(validate_crc=True)` / `validate_crc` raise, and the Python decoder
emits no message there, whatever its `max_payload_len_bytes`.  A header announcing more bytes than the
buffer holds is likewise refused by the Python validator.  The harness compares `IsValid`, `validate_crc`,
the framer and the decoder with this verdict on altered size fields at every such boundary, in exact-size
and in larger heap buffers. -/
theorem C06_oversize_rejected (msg : Bytes) (h24 : HDR ≤ msg.length) :
    (MAX_EXPECTED < HDR + u32le msg 16 → cxxIsValid msg = some false) ∧
    (MAX_EXPECTED < u32le msg 16 → pyUnpackValidate msg = some false ∧ pyCrcOk msg = false ∧
      ∀ m n, (cfgPy m).step msg ≠ .emit n) ∧
    (msg.length < HDR + u32le msg 16 → pyUnpackValidate msg = some false) := by
  refine ⟨fun h => ?_, fun h => ⟨?_, ?_, ?_⟩, fun h => ?_⟩
  · unfold cxxIsValid; rw [if_neg (by omega), if_pos h]
  · unfold pyUnpackValidate; rw [if_neg (by omega), if_pos h]
  · unfold pyCrcOk; simp; omega
  · intro m n hn
    rw [C04_accept_criteria] at hn
    unfold MAX_EXPECTED at h; omega
  · unfold pyUnpackValidate
    rw [if_neg (by omega)]
    split <;> rfl

/-! ## Non-vacuity -/

/-- A 24-byte header whose size field is 0xFFFFFFFF (24 + size = 2^32 + 23): hypotheses of
`C06_oversize_rejected` hold. -/
example : HDR ≤ (c06Crafted.take 16 ++ [0xFF, 0xFF, 0xFF, 0xFF] ++ (c06Crafted.drop 20).take 4).length ∧
    MAX_EXPECTED < HDR + u32le (c06Crafted.take 16 ++ [0xFF, 0xFF, 0xFF, 0xFF] ++ (c06Crafted.drop 20).take 4) 16 := by
  decide

/-- The encoder model on a concrete call (type 10000, version 1, sequence 5, source 7, two payload
bytes): hypotheses of `C06_encoder_valid` hold, and the bytes are the ones the Python encoder
returns (checked against the implementation by the harness). -/
example : EncFits ⟨5⟩ 10000 1 7 [0xAB, 0xCD] := by unfold EncFits; decide

/-- A history on one encoder: source identifier 7 given, then omitted, then 2^32 (refused), then omitted: the
second and the last message carry source identifier 0 and the produced messages are numbered 0, 1, 2. -/
example :
    (okOutputs (encodeAll Encoder.init
      [⟨10000, 0, some 7, some [1]⟩, ⟨10000, 0, none, some [2]⟩, ⟨10000, 0, some 4294967296, some [3]⟩,
       ⟨10000, 0, some (-1), some [3]⟩, ⟨10000, 0, some 9, none⟩, ⟨10000, 0, none, some [4]⟩])).map
      (fun o => ((parseHeader o).sourceId, (parseHeader o).sequenceNumber)) = [(7, 0), (0, 1), (0, 2)] := by
  decide +kernel

example : IsBurst (bitsOf (flipPattern 3 1 6)) := C06_single_bit_is_burst 3 1 6 (by decide) (by decide)

/-- Two flipped bits 31 positions apart (bit 1 of byte 0 and bit 0 of byte 4) form a burst. -/
example : IsBurst (bitsOf [0x02, 0, 0, 0, 0x01]) :=
  ⟨1, true :: (List.replicate 30 false ++ [true]), 7, by decide, by decide, by decide⟩

/-- Two flipped bits 71 positions apart (bit 0 of byte 0 and bit 7 of byte 8). -/
example : TwoBits (bitsOf [0x01, 0, 0, 0, 0, 0, 0, 0, 0x80]) :=
  ⟨0, 71, 0, by decide, by decide, by decide⟩

end FeVerif
