/-
C09 — a saved index is either equivalent to a fresh one or is rejected.

Model: FeVerif/Model/FileIndex.lean (`saveBytes`, `load`), tied to file_index.py by tools/props/c09.py
(every truncation length of real `.p1i` files × data-file variants).  An index is identified with its
records `(whole-second P1 time | none, type, offset)`; ordinals are positions.  `cfgFile.runFile d 0` is
the sequential scan of data file `d` (= the fresh index by C08).
-/
import FeVerif.Proofs.FileIndex

namespace FeVerif
open FileIndex

theorem cfgFile_msgLen (buf : Bytes) : cfgFile.msgLen buf = HDR + u32le buf 16 :=
  msgLen_fe rfl rfl buf

/-- The end-of-file marker `save` appends. -/
def eofMarker (dataSize : Nat) : Rec := ⟨none, INVALID_TYPE, dataSize⟩

theorem eofMarker_wf (n : Nat) (h : n < 18446744073709551616) : (eofMarker n).WF := by
  unfold eofMarker Rec.WF INVALID_TYPE; simp; exact h

theorem wf_append {idx : List Rec} {n : Nat} (hwf : ∀ r ∈ idx, r.WF) (h : n < 18446744073709551616) :
    ∀ r ∈ idx ++ [eofMarker n], r.WF :=
  List.forall_mem_append.2 ⟨hwf, List.forall_mem_singleton.2 (eofMarker_wf n h)⟩

theorem saveBytes_eq (idx : List Rec) (hne : idx ≠ []) (hty : ∀ r ∈ idx, r.type ≠ INVALID_TYPE) (n : Nat) :
    saveBytes idx n = some (encodeRecs (idx ++ [eofMarker n])) := by
  unfold saveBytes
  cases hl : idx.getLast? with
  | none => exact absurd (List.getLast?_eq_none_iff.1 hl) hne
  | some last =>
    have : last ∈ idx := List.mem_of_getLast? hl
    simp only [if_pos (hty last this)]; rfl

/-- **Saved index ≡ fresh index.** Saving a non-empty index and loading it against the unchanged data
file returns exactly the saved entries. -/
theorem C09_saved_index_equiv (idx : List Rec) (data : Bytes) (hwf : ∀ r ∈ idx, r.WF) (hne : idx ≠ [])
    (hty : ∀ r ∈ idx, r.type ≠ INVALID_TYPE) (hd : data.length < 18446744073709551616)
    (hpos : 0 < data.length) :
    ∃ b, saveBytes idx data.length = some b ∧ load b data = .ok idx := by
  refine ⟨_, saveBytes_eq idx hne hty _, load_eq_ok_iff.2 (.inr ⟨eofMarker data.length, ?_, ?_, ?_⟩)⟩
  · rw [decodeRecs_encodeRecs _ (wf_append hwf hd), List.getLast?_concat]
  · exact fun h => by rw [h] at hpos; exact Nat.lt_irrefl 0 hpos
  · rw [if_pos (show (eofMarker data.length).type = INVALID_TYPE from rfl),
      decodeRecs_encodeRecs _ (wf_append hwf hd), List.dropLast_concat]
    exact ⟨rfl, rfl⟩

/-- **A changed data size is noticed, and the stale index does not survive.** With the complete index
file on disk, any data file of a different size is refused with the error the caller handles by
re-indexing, and the index file is deleted (so that it cannot be accepted again should the data file
later return to the old size while a re-indexing in between found nothing to save). -/
theorem C09_size_change_rejected (idx : List Rec) (n : Nat) (data' : Bytes) (hwf : ∀ r ∈ idx, r.WF)
    (hn : n < 18446744073709551616) (hsize : data'.length ≠ n) :
    load (encodeRecs (idx ++ [eofMarker n])) data' = .valueError true := by
  unfold load
  rw [decodeRecs_encodeRecs _ (wf_append hwf hn)]
  by_cases h0 : data'.length = 0
  · rw [if_pos ⟨h0, by simp⟩]
  · rw [if_neg (by simp [h0]), if_neg (by simp)]
    simp [eofMarker, hsize]

/-- **Every crash point of `save`, every later growth or shrinkage of the data file.**
Let the index of data file `d` (its offsets are the sequential scan of `d`) have been saved, and let
only the first `k` bytes of the index file have reached the disk (`k` arbitrary, including all of them).
Let the data file since have been appended to or truncated (`d'`).  If `load` accepts what is on disk,
the loaded index lists exactly the messages of a fresh sequential scan of `d'`. -/
theorem C09_truncated_index_sound (d : Bytes) (idx : List Rec) (hwf : ∀ r ∈ idx, r.WF)
    (hty : ∀ r ∈ idx, r.type ≠ INVALID_TYPE) (hd : d.length < 18446744073709551616)
    (hidx : idx.map (·.offset) = (cfgFile.runFile d 0).map (·.1))
    (k : Nat) (d' : Bytes) (hd' : (∃ x, d' = d ++ x) ∨ (∃ m, d' = d.take m)) (i : List Rec)
    (hload : load ((encodeRecs (idx ++ [eofMarker d.length])).take k) d' = .ok i) :
    i.map (·.offset) = (cfgFile.runFile d' 0).map (·.1) :=
  (load_truncated d idx (wf_append hwf hd) hty hidx k d' hd' i hload).2.2

end FeVerif
