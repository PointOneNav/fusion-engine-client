/-
C13 — time-range membership follows the documented interval semantics.

Model: `FeVerif/Model/TimeRange.lean` (literal to `utils/time_range.py` after the three `fix:` commits recorded in
KNOWN_FINDINGS.txt).  Specification: `FeVerif/Spec/TimeRange.lean` (`Interval.verdict`, `Interval.seq`).
Times are integers in any fixed resolution; all statements are for message sequences of any length.
-/
import FeVerif.Proofs.TimeRange

namespace FeVerif
open TR

/-- **Constructor.** The object is fresh (latches clear, `_range_specified` correct) and stands for the interval the
arguments describe: `absolute` defaults to "either bound is a `Timestamp`"; an invalid `Timestamp` bound, an
absolute start of 0 and an infinite end are open bounds. -/
theorem C13_constructor_interval (s e : BoundArg) (a : Option Bool) (z : Option Int) :
    (TimeRange.new s e a z).Fresh ∧ (TimeRange.new s e a z).t0 = z ∧
    (TimeRange.new s e a z).absolute = (match a with | some b => b | none => s.isTs || e.isTs) ∧
    (TimeRange.new s e a z).start = startOf s.seconds (TimeRange.new s e a z).absolute ∧
    (TimeRange.new s e a z).stop = endOf e.seconds := by
  refine ⟨TimeRange.fresh_new s e a z, rfl, ?_, rfl, normStop_eq_endOf _⟩
  cases a <;> rfl

/-- **Membership.** For every fresh range object and every message sequence whose P1 times do not decrease, the
booleans returned by successive `is_in_range` calls (with either value of `return_timestamps`) are the verdicts of
the interval `[start, end)`, absolute or relative to the supplied `t0`, else to the first P1 time of the sequence. -/
theorem C13_is_in_range_refines (r : TimeRange) (retTs : Bool) (msgs : List Msg) (hf : r.Fresh)
    (hmono : Monotone msgs) :
    (r.run retTs msgs).2 = (r.interval msgs).seq msgs :=
  TimeRange.run_refines r retTs msgs hf hmono

/-- The same, message by message: the `i`-th result is the specification's verdict for the `i`-th message given
the earlier messages and the earlier results — a P1-timed message is accepted iff its (relative) time is in the
interval; a message without P1 time iff no earlier P1 time was at or beyond the end and the start is open or an
earlier message was accepted (`Interval.verdict`). -/
theorem C13_is_in_range_pointwise (r : TimeRange) (retTs : Bool) (msgs : List Msg) (hf : r.Fresh)
    (hmono : Monotone msgs) (i : Nat) (hi : i < msgs.length) :
    (r.run retTs msgs).2[i]? =
      some ((r.interval msgs).verdict (msgs.take i) ((r.run retTs msgs).2.take i) msgs[i]) := by
  rw [TimeRange.run_refines r retTs msgs hf hmono]
  unfold Interval.seq
  rw [List.getElem?_eq_getElem (by rw [Interval.seqFrom_length]; exact hi),
    Interval.seqFrom_getElem _ i hi]
  simp

/-- Membership for a constructed range, with the interval written out. -/
theorem C13_constructed_range_refines (s e : BoundArg) (a : Option Bool) (z : Option Int) (retTs : Bool)
    (msgs : List Msg) (hmono : Monotone msgs) :
    ((TimeRange.new s e a z).run retTs msgs).2 =
      Interval.seq ⟨startOf s.seconds (match a with | some b => b | none => s.isTs || e.isTs), endOf e.seconds,
        (match a with | some b => b | none => s.isTs || e.isTs), orElse z (firstP1 msgs)⟩ msgs := by
  rw [TimeRange.run_refines _ retTs msgs (TimeRange.fresh_new s e a z) hmono]
  unfold TimeRange.interval TimeRange.new
  simp only [normStop_eq_endOf]
  cases a <;> rfl

/-- **restart().** After any history, `restart()` clears both latches and keeps bounds, type and the origin already
established (supplied, or the first P1 time seen - by a range with or without bounds); the next pass over a monotone
sequence is again the interval's verdicts, measured from that origin. -/
theorem C13_restart_resets (r : TimeRange) (retTs retTs' : Bool) (hist msgs : List Msg) (hwf : r.WF)
    (hmono : Monotone msgs) :
    ((r.run retTs hist).1.restart).started = false ∧ ((r.run retTs hist).1.restart).ended = false ∧
    ((r.run retTs hist).1.restart).t0 = (r.run retTs hist).1.t0 ∧
    (r.run retTs hist).1.t0 = orElse r.t0 (firstP1 hist) ∧
    (((r.run retTs hist).1.restart).run retTs' msgs).2 =
      Interval.seq ⟨r.start, r.stop, r.absolute, orElse (r.run retTs hist).1.t0 (firstP1 msgs)⟩ msgs := by
  obtain ⟨st, en, h⟩ := r.run_state retTs hist
  refine ⟨rfl, rfl, rfl, by rw [h], ?_⟩
  rw [TimeRange.run_refines _ retTs' msgs (TimeRange.fresh_restart (TimeRange.run_wf retTs hist hwf)) hmono, h]
  rfl

/-- **make_absolute().** It raises exactly for a relative range with no `t0` of its own and none supplied. -/
theorem C13_make_absolute_error_iff (r : TimeRange) (p : Option Int) :
    r.makeAbsolute p = .error .valueError ↔ r.absolute = false ∧ r.t0 = none ∧ p = none := by
  unfold TimeRange.makeAbsolute
  cases r.absolute <;> cases r.t0 <;> cases p <;> simp

/-- Otherwise the result is absolute and accepts the same messages, provided the `t0` used for the conversion is the
origin the relative range has on that sequence. -/
theorem C13_make_absolute_preserves (r r' : TimeRange) (p : Option Int) (retTs : Bool) (msgs : List Msg)
    (hf : r.Fresh) (h : r.makeAbsolute p = .ok r')
    (horigin : r.absolute = false → orElse r.t0 (firstP1 msgs) = (if p.isSome ∧ r.t0.isNone then p else r.t0))
    (hmono : Monotone msgs) :
    r'.absolute = true ∧ r'.Fresh ∧ (r'.run retTs msgs).2 = (r.run retTs msgs).2 :=
  ⟨(TimeRange.makeAbsolute_keeps h).1, TimeRange.fresh_makeAbsolute hf h, TimeRange.makeAbsolute_run retTs msgs h horigin⟩

/-- **intersect().** It raises exactly when one range is absolute, the other relative, and neither has a `t0`. -/
theorem C13_intersect_error_iff (a b : TimeRange) :
    a.intersect b = .error .valueError ↔ a.absolute ≠ b.absolute ∧ a.t0 = none ∧ b.t0 = none := by
  unfold TimeRange.intersect TimeRange.makeAbsolute
  cases a.absolute <;> cases b.absolute <;> cases a.t0 <;> cases b.t0 <;> simp

/-- Otherwise the result accepts, on every monotone sequence on which the two ranges' time frames agree
(`Compatible`), exactly the messages both ranges accept — messages with and without P1 time alike. -/
theorem C13_intersect_is_intersection (a b c : TimeRange) (retTs : Bool) (msgs : List Msg)
    (ha : a.Fresh) (hb : b.Fresh) (hc : a.intersect b = .ok c) (hcompat : Compatible a b msgs)
    (hmono : Monotone msgs) :
    c.Fresh ∧ (c.run retTs msgs).2 = List.zipWith (· && ·) (a.run retTs msgs).2 (b.run retTs msgs).2 := by
  refine ⟨?_, TimeRange.intersect_run retTs msgs ha hb hc hcompat hmono⟩
  obtain ⟨a', b', ha', _, rfl⟩ := TimeRange.intersect_ok hc
  exact TimeRange.fresh_meet b' (TimeRange.promote_fresh ha ha')

/-- **Operations on ranges that have already been used.** Whatever two ranges have been shown before (`ha`, `hb`;
with or without bounds, any results), `intersect` fails exactly when one is absolute, the other relative, and
neither knows an origin - a supplied `t0`, or the first P1 time it has been shown. -/
theorem C13_intersect_after_history_error_iff (a b : TimeRange) (retTs : Bool) (ha hb : List Msg) :
    (a.run retTs ha).1.intersect (b.run retTs hb).1 = .error .valueError ↔
      a.absolute ≠ b.absolute ∧ orElse a.t0 (firstP1 ha) = none ∧ orElse b.t0 (firstP1 hb) = none := by
  obtain ⟨_, _, h1⟩ := a.run_state retTs ha
  obtain ⟨_, _, h2⟩ := b.run_state retTs hb
  rw [C13_intersect_error_iff, h1, h2]

/-- Otherwise the result, after `restart()`, accepts on every monotone sequence on which the two time frames agree
exactly the messages accepted by both intervals as constructed, each measured from the origin its range knows by
then (supplied, else the first P1 time it was shown), else from the first P1 time of the new sequence. -/
theorem C13_intersect_after_history (a b c : TimeRange) (retTs retTs' : Bool) (ha hb msgs : List Msg)
    (hwa : a.WF) (hwb : b.WF) (hc : (a.run retTs ha).1.intersect (b.run retTs hb).1 = .ok c)
    (hcompat : Compatible (a.run retTs ha).1 (b.run retTs hb).1 msgs) (hmono : Monotone msgs) :
    (c.restart.run retTs' msgs).2 =
      List.zipWith (· && ·)
        (Interval.seq ⟨a.start, a.stop, a.absolute, orElse (orElse a.t0 (firstP1 ha)) (firstP1 msgs)⟩ msgs)
        (Interval.seq ⟨b.start, b.stop, b.absolute, orElse (orElse b.t0 (firstP1 hb)) (firstP1 msgs)⟩ msgs) := by
  have hfa := TimeRange.fresh_restart (TimeRange.run_wf retTs ha hwa)
  have hfb := TimeRange.fresh_restart (TimeRange.run_wf retTs hb hwb)
  rw [TimeRange.intersect_run retTs' msgs hfa hfb (TimeRange.intersect_restart hc) hcompat hmono,
    TimeRange.run_refines _ retTs' msgs hfa hmono, TimeRange.run_refines _ retTs' msgs hfb hmono]
  obtain ⟨_, _, h1⟩ := a.run_state retTs ha
  obtain ⟨_, _, h2⟩ := b.run_state retTs hb
  rw [h1, h2]
  rfl

/-- The same for `make_absolute()` on a used range: it fails exactly for a relative range that knows no origin and
is given none. -/
theorem C13_make_absolute_after_history_error_iff (r : TimeRange) (retTs : Bool) (hist : List Msg) (p : Option Int) :
    (r.run retTs hist).1.makeAbsolute p = .error .valueError ↔
      r.absolute = false ∧ orElse r.t0 (firstP1 hist) = none ∧ p = none := by
  obtain ⟨_, _, h⟩ := r.run_state retTs hist
  rw [C13_make_absolute_error_iff, h]

/-- **make_absolute() in the middle of a pass.** Once the origin of a relative range is established (supplied, or a
P1 time has been shown), converting it - whatever the argument - does not disturb the pass: no latch is touched, and
on whatever follows (monotone or not) the converted range returns what the relative range would have returned. -/
theorem C13_make_absolute_mid_pass (r : TimeRange) (retTs retTs' : Bool) (pre post : List Msg) (p : Option Int)
    (z : Int) (ha : r.absolute = false) (hz : orElse r.t0 (firstP1 pre) = some z) :
    ∃ r', (r.run retTs pre).1.makeAbsolute p = .ok r' ∧ r'.absolute = true ∧
      r'.started = (r.run retTs pre).1.started ∧ r'.ended = (r.run retTs pre).1.ended ∧
      (r'.run retTs' post).2 = ((r.run retTs pre).1.run retTs' post).2 := by
  obtain ⟨st, en, hrun⟩ := r.run_state retTs pre
  rw [hz] at hrun
  cases h : (r.run retTs pre).1.makeAbsolute p with
  | error e =>
    cases e
    rw [C13_make_absolute_error_iff, hrun] at h
    cases h.2.1
  | ok r' =>
    obtain ⟨hab, _, hst, hen⟩ := TimeRange.makeAbsolute_keeps h
    refine ⟨r', rfl, hab, hst, hen, TimeRange.makeAbsolute_run retTs' post h fun _ => ?_⟩
    rw [hrun]
    simp [orElse]

/-- **parse().** A text `START[:END[:abs|rel]]` whose number parts convert (`''` and negative values count as
omitted) yields the fresh range `[START, END)` of the given type (the type in the text wins over the argument; no type
anywhere means relative), and that range's results on a monotone sequence are the verdicts of that interval:
open start if omitted or an absolute 0, open end if omitted or infinite, relative to the first P1 time. -/
theorem C13_parse_interval (flt : String → Option FloatVal) (s e : String) (ty : Option String) (a : Option Bool)
    (s' e' : Option Ext) (ab : Bool) (hs : strToTime flt s = .ok s') (he : strToTime flt e = .ok e')
    (hty : (ty = some "abs" ∧ ab = true) ∨ (ty = some "rel" ∧ ab = false) ∨
      (ty = none ∧ ab = (match a with | some b => b | none => false))) :
    ∃ r, TimeRange.parseParts flt (s :: e :: ty.toList) a = .ok r ∧ r.Fresh ∧ r.t0 = none ∧
      ∀ (retTs : Bool) (msgs : List Msg), Monotone msgs →
        (r.run retTs msgs).2 =
          Interval.seq ⟨startOf s' ab, endOf e', ab, firstP1 msgs⟩ msgs := by
  obtain ⟨oa, hp, rfl⟩ : ∃ oa, parseType (s :: e :: ty.toList) a = .ok oa ∧
      ctorAbsolute (optBound s') (optBound e') oa = ab := by
    rcases hty with ⟨rfl, rfl⟩ | ⟨rfl, rfl⟩ | ⟨rfl, rfl⟩
    · exact ⟨some true, by simp [parseType], rfl⟩
    · exact ⟨some false, by simp [parseType], rfl⟩
    · exact ⟨a, rfl, by cases a <;> simp [ctorAbsolute, optBound_isTs]⟩
  refine ⟨_, by rw [TimeRange.parseParts_cons_cons, hp, hs, he]; rfl, TimeRange.fresh_new _ _ _ _, rfl,
    fun retTs msgs hmono => ?_⟩
  rw [C13_constructed_range_refines _ _ _ _ retTs msgs hmono, optBound_seconds, optBound_seconds]
  rfl

/-- A start-only text. -/
theorem C13_parse_start_only (flt : String → Option FloatVal) (s : String) (a : Option Bool) (s' : Option Ext)
    (hs : strToTime flt s = .ok s') :
    TimeRange.parseParts flt [s] a = .ok (TimeRange.new (optBound s') .none a none) := by
  simp [TimeRange.parseParts, parseType, hs]

/-- How a number part is read. -/
theorem C13_parse_bound (flt : String → Option FloatVal) (s : String) :
    strToTime flt s =
      if s = "" then .ok none
      else match flt s with
        | none => .error .valueError
        | some (.fin v) => .ok (if v < 0 then none else some (.fin v))
        | some .inf => .ok (some .inf)
        | some .negInf => .ok none := rfl

/-- Malformed texts are rejected: more than three parts, an unknown type specifier, or a number part that
`float()` refuses. -/
theorem C13_parse_rejects (flt : String → Option FloatVal) (a : Option Bool) :
    (∀ parts : List String, parts.length > 3 → TimeRange.parseParts flt parts a = .error .valueError) ∧
    (∀ s e ty : String, ty ≠ "abs" → ty ≠ "rel" → TimeRange.parseParts flt [s, e, ty] a = .error .valueError) ∧
    (∀ (s e : String) (rest : List String), s ≠ "" → flt s = none →
      TimeRange.parseParts flt (s :: e :: rest) a = .error .valueError) ∧
    (∀ (s e : String) (rest : List String), e ≠ "" → flt e = none →
      TimeRange.parseParts flt (s :: e :: rest) a = .error .valueError) := by
  refine ⟨fun parts h => TimeRange.parseParts_type_error (parseType_long a h),
    fun s e ty h1 h2 => TimeRange.parseParts_type_error (by simp only [parseType, if_neg h1, if_neg h2]), ?_, ?_⟩
  · intro s e rest h1 h2
    rw [TimeRange.parseParts_cons_cons, strToTime_error h1 h2]
    exact bind_valueError _
  · intro s e rest h1 h2
    rw [TimeRange.parseParts_cons_cons, strToTime_error h1 h2]
    cases parseType (s :: e :: rest) a with
    | error x => cases x; rfl
    | ok _ => exact bind_valueError _

/-! ## real messages: what `is_in_range` is told about a message is what the documentation says of its members -/

/-- **P1 time of a message.** For every message whose members do not contradict each other, `get_p1_time()` yields
a valid P1 time exactly when the documentation gives the message one, and then that one: the `p1_time` member of
an ordinary message; for a sensor measurement `details.p1_time`, else `details.measurement_time` when (and only
when) its declared time base is P1 time.  A measurement time in system, sender or GPS time is never a P1 time. -/
theorem C13_message_p1_time (o : Obj) (h : o.unambiguous = true) : o.msg.p1? = o.docP1 := by
  rw [Obj.msg_p1]
  cases o with
  | raw => rfl
  | plain p1 sys =>
    cases p1 with
    | none => rfl
    | some x => cases x <;> rfl
  | meas d =>
    rw [Obj.getP1Time_meas]
    simp only [Obj.docP1, Obj.unambiguous] at h ⊢
    split
    · rename_i hs
      simp only [hs, if_true, Bool.or_eq_true, Option.isNone_iff_eq_none, decide_eq_true_eq] at h ⊢
      rcases h with h | h <;> rw [h]
      cases d.measurementTime <;> rfl
    · cases d.p1Time <;> simp

/-- With contradictory members the value handed to `is_in_range` is still one of the message's own P1 members (or
none): never a time in another base. -/
theorem C13_message_p1_time_is_a_p1_member (o : Obj) (t : Int) (h : o.msg.p1? = some t) :
    o.docP1 = some t ∨ ∃ d, o = .meas d ∧ d.source = .p1Time ∧ d.measurementTime = some t := by
  rw [Obj.msg_p1] at h
  cases o with
  | raw => cases h
  | plain p1 sys =>
    left
    cases p1 with
    | none => cases h
    | some x => cases x with
      | none => cases h
      | some t' => exact h
  | meas d =>
    rw [Obj.getP1Time_meas] at h
    split at h
    · rename_i hs; exact Or.inr ⟨d, rfl, hs, h⟩
    · left; simp only [Obj.docP1, h]

/-- **System time of a message.** `get_system_time_ns()` yields the `system_time_ns` member, or a measurement time
stamped on reception, and nothing (`None` or NaN) for every other message. -/
theorem C13_message_system_time (o : Obj) : o.getSystemTimeNs.value = o.docSys := by
  cases o with
  | raw => rfl
  | plain p1 sys => cases sys <;> rfl
  | meas d =>
    obtain ⟨mt, src, p1⟩ := d
    by_cases hs : src = .timestampedOnReception <;> cases mt <;>
      simp [Obj.getSystemTimeNs, Obj.docSys, SysTime.value, hs]

/-- **Membership over real messages.** A fresh range shown messages with consistent members, whose documented P1
times do not decrease, answers with the interval's verdicts for the messages *as documented*: a message that only
has a system, sender or GPS time is handled by the rule for messages without P1 time and never moves the origin. -/
theorem C13_is_in_range_on_messages (r : TimeRange) (retTs : Bool) (objs : List Obj) (hf : r.Fresh)
    (hu : ∀ o ∈ objs, o.unambiguous = true) (hmono : Monotone (objs.map Obj.docMsg)) :
    (r.run retTs (objs.map Obj.msg)).2 = (r.interval (objs.map Obj.docMsg)).seq (objs.map Obj.docMsg) := by
  rw [TimeRange.run_congr retTs Obj.msg Obj.docMsg r
    (fun o ho => by rw [C13_message_p1_time o (hu o ho), Obj.docMsg_p1])]
  exact TimeRange.run_refines r retTs _ hf hmono

/-! ## the hypotheses are satisfiable, and the statements say something -/

/-- open start, first P1 time already past the end, then a message without P1 time: both rejected. -/
example : ((TimeRange.new .none (.num (.fin 16)) (some true) none).run false [.p1 20, .noP1]).2 = [false, false] := by
  decide

example : Monotone [.noP1, .p1 12, .raw, .p1 16, .p1 20, .p1 28, .invalidP1] := by
  unfold Monotone p1Times; decide

/-- the documented example: relative `[1.0, 3.0)` in quarter seconds. -/
example : ((TimeRange.new (.num (.fin 4)) (.num (.fin 12)) (some false) none).run false
    [.noP1, .p1 12, .raw, .p1 16, .p1 20, .p1 28, .invalidP1]).2 = [false, false, false, true, true, false, false] := by
  decide

example : (Interval.mk (some (.fin 4)) (some 12) false (some 12)).seq
    [.noP1, .p1 12, .raw, .p1 16, .p1 20, .p1 28, .invalidP1] = [false, false, false, true, true, false, false] := by
  decide

/-- a relative and an absolute range whose frames agree, and their intersection -/
example : Compatible (TimeRange.new (.num (.fin 4)) (.num (.fin 12)) (some false) (some 40))
    (TimeRange.new (.num (.fin 46)) .none (some true) none) [.p1 40, .p1 48] := by
  simp [Compatible, TimeRange.new, ctorAbsolute]

example : (TimeRange.new (.num (.fin 4)) (.num (.fin 12)) (some false) (some 40)).intersect
    (TimeRange.new (.num (.fin 46)) .none (some true) none) =
    .ok { start := some (.fin 46), stop := some 52, absolute := true, t0 := some 40, specified := true,
          started := false, ended := false } := by
  rfl

/-- an IMU input stamped on reception at 5000 s (no P1 time yet) ahead of P1 times 10.0, 11.0, 12.0 s, relative
`[1.0, 3.0)`: the origin is 10.0 s, not the reception time. -/
example : ((TimeRange.new (.num (.fin 4)) (.num (.fin 12)) (some false) none).run false
    ([.meas ⟨some 20000, .timestampedOnReception, none⟩, .plain (some (some 40)) none, .plain (some (some 44)) none,
      .meas ⟨some 20008, .timestampedOnReception, none⟩, .plain (some (some 48)) none].map Obj.msg)).2 =
    [false, false, true, true, true] := by
  decide

example : Obj.docP1 (.meas ⟨some 20000, .gpsTime, none⟩) = none ∧ Obj.docP1 (.meas ⟨some 44, .p1Time, none⟩) = some 44 ∧
    Obj.docP1 (.meas ⟨some 20000, .senderSystemTime, some 44⟩) = some 44 := by
  decide

end FeVerif
