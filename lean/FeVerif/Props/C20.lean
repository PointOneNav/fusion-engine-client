/-
C20 — C++ data-version text conversion is a safe, exact round trip.

Model: FeVerif/Model/DataVersion.lean (`fromString` = `FromString(const char*)` of data_version.cc after
the fix commit a4e1937, over a NUL-terminated buffer whose every read is bounds-checked by the model;
`toStr` = `ToString`/`operator<<`; `opEq … opGe` = the six operators of data_version.h).
Oracle: FeVerif/Spec/DataVersion.lean (`Grammar s M m`: `s` is digits(M ≤ 255) "." digits(m ≤ 65535),
leading zeros admitted; `LexLt`).  The model is tied to the compiled code under ASan/UBSan by
tools/props/c20.py + cxx/c20_harness.cc.
-/
import FeVerif.Proofs.DataVersion

namespace FeVerif
open DV

/-- ToString of a valid version is a text of the grammar denoting that version. -/
theorem C20_toString_in_grammar (v : DataVersion) (hv : v.isValid = true) :
    Grammar (toStr v) v.major.toNat v.minor.toNat := by
  unfold toStr; rw [if_pos hv]
  obtain ⟨a1, a2, a3⟩ := decDigits_spec v.major.toNat
  obtain ⟨b1, b2, b3⟩ := decDigits_spec v.minor.toNat
  exact ⟨_, _, rfl, a1, a2, a3, Nat.le_of_lt_succ v.major.toNat_lt, b1, b2, b3, Nat.le_of_lt_succ v.minor.toNat_lt⟩

/-- Round trip: formatting a valid version and parsing the text back yields the same version
(all 256 × 65536 − 1 of them; no fault on the way). -/
theorem C20_roundtrip (v : DataVersion) (hv : v.isValid = true) : fromString (toStr v) = .ok v := by
  rw [fromString_of_grammar (C20_toString_in_grammar v hv)]
  cases v; simp

/-- The invalid version is formatted as `<invalid>`, which parses back to the invalid version; so
the round trip holds for every `DataVersion` value. -/
theorem C20_roundtrip_all (v : DataVersion) : fromString (toStr v) = .ok v := by
  cases hv : v.isValid
  · rw [isValid_eq_false.1 hv]
    decide
  · exact C20_roundtrip v hv

/-- Memory safety: for every string (any bytes, any length) `FromString` performs no read beyond
the terminator — the model's reads are bounds-checked and none of them faults. -/
theorem C20_never_faults (s : List Char) : fromString s ≠ .fault := by
  rcases fromString_shape s with h | ⟨_, _, _, _, _, _, _, h⟩ <;> rw [h] <;> nofun

/-- Hence `FromString` always returns a version. -/
theorem C20_total (s : List Char) : ∃ v, fromString s = .ok v := by
  cases h : fromString s with
  | ok v => exact ⟨v, rfl⟩
  | fault => exact absurd h (C20_never_faults s)

/-- The grammar, both ways: a text `<major>.<minor>` (digits only, major ≤ 255, minor ≤ 65535) is
parsed to exactly that version; every other C string is parsed to the invalid version. -/
theorem C20_grammar (s : List Char) (hn : NulFree s) :
    (∀ M m, Grammar s M m → fromString s = .ok ⟨UInt8.ofNat M, UInt16.ofNat m⟩) ∧
    ((¬ ∃ M m, Grammar s M m) → fromString s = .ok INVALID) := by
  refine ⟨fun M m h => fromString_of_grammar h, fun h => ?_⟩
  rcases fromString_cases s hn with h' | ⟨M, m, hg, _⟩
  · exact h'
  · exact absurd ⟨M, m, hg⟩ h

/-- The result is a *valid* version exactly for the texts of the grammar other than `255.65535`
(whose value is the reserved invalid version), and then it is the denoted version. -/
theorem C20_valid_iff_grammar (s : List Char) (hn : NulFree s) (v : DataVersion) :
    (fromString s = .ok v ∧ v.isValid = true) ↔
      ∃ M m, Grammar s M m ∧ ¬ (M = 255 ∧ m = 65535) ∧ v = ⟨UInt8.ofNat M, UInt16.ofNat m⟩ := by
  constructor
  · rintro ⟨h, hv⟩
    rcases fromString_cases s hn with h' | ⟨M, m, hg, h'⟩ <;> rw [h'] at h <;> injection h with h <;> subst h
    · exact absurd hv (by decide)
    · refine ⟨M, m, hg, fun hne => ?_, rfl⟩
      rw [hg.isValid_false_iff.2 hne] at hv
      cases hv
  · rintro ⟨M, m, hg, hne, rfl⟩
    exact ⟨fromString_of_grammar hg, by rwa [← Bool.not_eq_false, hg.isValid_false_iff]⟩

/-- `operator<` is the lexicographic order on `(major, minor)`. -/
theorem C20_lt_is_lex (a b : DataVersion) : opLt a b = true ↔ LexLt a b := opLt_iff a b

/-- `operator==` is equality of both fields. -/
theorem C20_eq_is_eq (a b : DataVersion) : opEq a b = true ↔ a = b := opEq_iff a b

/-- Trichotomy: exactly one of `a < b`, `a == b`, `b < a`. -/
theorem C20_trichotomy (a b : DataVersion) :
    (opLt a b = true ∧ opEq a b = false ∧ opLt b a = false) ∨
    (opLt a b = false ∧ opEq a b = true ∧ opLt b a = false) ∨
    (opLt a b = false ∧ opEq a b = false ∧ opLt b a = true) := by
  simp only [← Bool.not_eq_true, opLt_iff_key, opEq_iff_key]
  omega

/-- `<` is a strict total order and `!= > <= >=` are the derived relations. -/
theorem C20_total_order :
    (∀ a, opLt a a = false) ∧
    (∀ a b c, opLt a b = true → opLt b c = true → opLt a c = true) ∧
    (∀ a b, opLt a b = true ∨ a = b ∨ opLt b a = true) ∧
    (∀ a b, opNe a b = !opEq a b) ∧
    (∀ a b, opGt a b = opLt b a) ∧
    (∀ a b, opLe a b = true ↔ (opLt a b = true ∨ opEq a b = true)) ∧
    (∀ a b, opGe a b = true ↔ (opGt a b = true ∨ opEq a b = true)) ∧
    (∀ a b, opLe a b = true ∨ opLe b a = true) ∧
    (∀ a b, opLe a b = true → opLe b a = true → a = b) ∧
    (∀ a b c, opLe a b = true → opLe b c = true → opLe a c = true) := by
  simp only [opGt, ← Bool.not_eq_true, ← opEq_iff, opLe_iff_key, opGe_iff_key, opLt_iff_key, opEq_iff_key]
  refine ⟨?_, ?_, ?_, fun _ _ => rfl, fun _ _ => trivial, ?_, ?_, ?_, ?_, ?_⟩
  all_goals intros; omega

/-! ### the code before the fix (kept as a record of what the check found) -/

/-- Before the fix: every text consisting of a number ≤ 255 only (`"5"`, `"12"`, …) made
`FromString` read the byte after the terminator. -/
theorem C20_before_fix_reads_past_terminator (ds : List Char) (hne : ds ≠ []) (hd : AllDigits ds)
    (hv : decVal ds ≤ 255) : fromStringV0 ds = .fault := by
  have hs := strtol_run (At.zero ds).append_nil hne hd stopsDigits_nil
  have hlen := List.length_pos_iff.2 hne
  have h2 : strtol ds (0 + ds.length + 1) = .fault := by
    unfold strtol
    rw [skipSpaces_fault (read_fault (by omega))]
  unfold fromStringV0
  simp only [hs, clampLong_small (show decVal ds ≤ 65535 by omega)]
  rw [if_neg (by omega), h2]

/-- Before the fix: the separator was never looked at — any non-digit character between the two
numbers was taken (`"5x3"` gave 5.3). -/
theorem C20_before_fix_ignores_separator (a b : List Char) (c : Char) (hc : isDigit c = false)
    (ha : a ≠ []) (hda : AllDigits a) (hva : decVal a ≤ 255)
    (hb : b ≠ []) (hdb : AllDigits b) (hvb : decVal b ≤ 65535) :
    fromStringV0 (a ++ c :: b) = .ok ⟨UInt8.ofNat (decVal a), UInt16.ofNat (decVal b)⟩ := by
  have h0 := At.zero (a ++ c :: b)
  have hs1 := strtol_run h0 ha hda (stopsDigits_cons hc)
  have hs2 := strtol_run h0.skip.next.append_nil hb hdb stopsDigits_nil
  have hlen1 := List.length_pos_iff.2 ha
  have hlen2 := List.length_pos_iff.2 hb
  unfold fromStringV0
  simp only [hs1, clampLong_small (show decVal a ≤ 65535 by omega)]
  rw [if_neg (by omega)]
  simp only [hs2, clampLong_small hvb]
  rw [if_neg (by omega)]
  simp

/-! ### the statements are about something (executable sanity checks of model and spec) -/

#guard fromString "3.2".toList == .ok ⟨3, 2⟩
#guard fromString "007.0003".toList == .ok ⟨7, 3⟩
#guard fromString "255.65534".toList == .ok ⟨255, 65534⟩
#guard fromString "255.65535".toList == .ok INVALID
#guard fromString "256.1".toList == .ok INVALID
#guard fromString "1.65536".toList == .ok INVALID
#guard fromString "5".toList == .ok INVALID
#guard fromString "5x3".toList == .ok INVALID
#guard fromString " 5.3".toList == .ok INVALID
#guard fromString "+5.3".toList == .ok INVALID
#guard fromString "5.-3".toList == .ok INVALID
#guard fromString "5.3 ".toList == .ok INVALID
#guard fromString "99999999999999999999999.1".toList == .ok INVALID
#guard fromStringV0 "5".toList == .fault
#guard fromStringV0 "5x3".toList == .ok ⟨5, 3⟩
#guard fromStringV0 " +5.-0".toList == .ok ⟨5, 0⟩
#guard toStr ⟨3, 2⟩ == "3.2".toList
#guard toStr ⟨0, 0⟩ == "0.0".toList
#guard toStr ⟨255, 65534⟩ == "255.65534".toList
#guard toStr INVALID == "<invalid>".toList
#guard opLt ⟨1, 65535⟩ ⟨2, 0⟩ && !opLt ⟨2, 0⟩ ⟨1, 65535⟩ && opLe ⟨2, 0⟩ ⟨2, 0⟩

example : Grammar "3.2".toList 3 2 := ⟨['3'], ['2'], by simp only [AllDigits]; decide⟩

example : LexLt ⟨1, 65535⟩ ⟨2, 0⟩ ∧ ¬ LexLt ⟨2, 0⟩ ⟨1, 65535⟩ := by unfold LexLt; decide

end FeVerif
