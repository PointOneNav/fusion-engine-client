/-
C10 — filtered log reads return exactly the matching messages, in file order.

Model: FeVerif/Model/Reader.lean (`construct`, `readAll`), spec: FeVerif/Spec/Reader.lean (`filterSpec`),
tied to mixed_log_reader.py / file_index.py by tools/props/c10.py.  A log is the unfiltered read.
-/
import FeVerif.Proofs.Reader

namespace FeVerif
open Reader

theorem decide_le_eq_not_lt (a b : Nat) : decide (a ≤ b) = !decide (b < a) := by
  simp only [← Nat.not_lt, decide_not]

theorem critOk_eq (log : List Msg) (c : Crit) (b : Option Nat × Option Nat) (p : Nat × Msg) :
    critOk log c b p =
      (typeOk c.types p.2 && (!srcBad c.sources p.2 && !cut2 c.maxBytes p.2) &&
        (match c.range with | none => true | some _ => inTime log b.1 b.2 p.1)) := by
  -- the type and range clauses are the same terms on both sides; the other two differ by a `!` inside the `match`
  unfold critOk typeOk srcBad cut2
  rw [Bool.and_right_comm]
  congr 1
  rw [Bool.and_assoc]
  congr 2
  · cases c.sources <;> simp
  · cases c.maxBytes <;> simp [decide_le_eq_not_lt]

theorem pipeline_none (log : List Msg) (hwf : LogWF log) (l : List (Nat × Msg)) (hsub : l.Sublist (zipOrd log 0))
    (sources : Option (List Nat)) (mb : Option Nat) :
    readAll log sources mb false (l.map entOf) =
      (l.filter fun p => typeOk none p.2 && (!srcBad sources p.2 && !cut2 mb p.2)).map (·.1) :=
  pipeline log hwf l hsub none sources mb

theorem pipeline_some (log : List Msg) (hwf : LogWF log) (l : List (Nat × Msg)) (hsub : l.Sublist (zipOrd log 0))
    (ts : List Nat) (sources : Option (List Nat)) (mb : Option Nat) :
    readAll log sources mb false (sliceByTypes (l.map entOf) ts) =
      (l.filter fun p => typeOk (some ts) p.2 && (!srcBad sources p.2 && !cut2 mb p.2)).map (·.1) :=
  pipeline log hwf l hsub (some ts) sources mb

theorem read_selected (log : List Msg) (hwf : LogWF log) (types sources : Option (List Nat)) (mb : Option Nat)
    (sel : Nat → Bool) :
    readAll log sources mb false (applyTypes types (((zipOrd log 0).filter fun p => sel p.1).map entOf)) =
      ((zipOrd log 0).filter fun p =>
        typeOk types p.2 && (!srcBad sources p.2 && !cut2 mb p.2) && sel p.1).map (·.1) := by
  rw [pipeline log hwf _ List.filter_sublist, List.filter_filter]

/-- **Filtered read = specification.** For every log (unfiltered read) and every combination of
message-type, source-identifier, time-range and byte-limit criteria, the reader's constructor filters
followed by reading to the end return exactly the messages of the unfiltered read that satisfy every
criterion, in file order; both sides refuse (IndexError) exactly when a time range is applied to a log
without any P1 time. -/
theorem C10_read_eq_filterSpec (log : List Msg) (hwf : LogWF log) (c : Crit) :
    (construct log c.types c.range).map (readAll log c.sources c.maxBytes false) = filterSpec log c := by
  obtain ⟨types, range, sources, mb⟩ := c
  -- `read_sliceByTime` makes the case distinction of `filterSpec`; `hc` turns its `critOk` into the reader's tests
  have hc := fun c b => funext (critOk_eq log c b)
  cases range with
  | none => simp only [construct, applyRange, filterSpec, Option.map_some, read_index log hwf, hc, Bool.and_true]
  | some r =>
    simp only [construct, applyRange, sliceByRange, filterSpec, read_sliceByTime log hwf, hc, Bool.and_true]

/-- **Combined filters = intersection.** A message satisfies the combined criteria iff it satisfies
each criterion alone (so the combined result is the intersection of the single-filter results, in
file order, and with no source filter every source passes). -/
theorem C10_combined_is_intersection (log : List Msg) (c : Crit) (b : Option Nat × Option Nat) (p : Nat × Msg) :
    critOk log c b p =
      (critOk log ⟨c.types, none, none, none⟩ b p && critOk log ⟨none, none, c.sources, none⟩ b p &&
       critOk log ⟨none, c.range, none, none⟩ b p && critOk log ⟨none, none, none, c.maxBytes⟩ b p) := by
  simp only [critOk, Bool.and_true, Bool.true_and]

/-- P1 times of the timed messages do not decrease along the log. -/
abbrev TimesMonotone (log : List Msg) : Prop :=
  ∀ (i j : Nat) (mi mj : Msg) (ti tj : Nat), i ≤ j → log[i]? = some mi → log[j]? = some mj →
    mi.timeNs = some ti → mj.timeNs = some tj → ti ≤ tj

theorem first_le (log : List Msg) (q : Msg → Bool) (i : Nat) (m : Msg) (h : log[i]? = some m) (hq : q m = true) :
    log.findIdx q ≤ i := by
  obtain ⟨hi, rfl⟩ := List.getElem?_eq_some_iff.1 h
  exact Nat.le_of_not_lt fun h1 => Bool.false_ne_true ((List.not_of_lt_findIdx h1).symm.trans hq)

theorem first_gt (log : List Msg) (q : Msg → Bool) (i : Nat) (hi : i < log.length)
    (h : ∀ j mj, j ≤ i → log[j]? = some mj → q mj = false) : i < log.findIdx q :=
  List.lt_findIdx_of_not hi fun j hj =>
    Bool.eq_false_iff.1 (h j _ hj (List.getElem?_eq_getElem (Nat.lt_of_le_of_lt hj hi)))

theorem firstTimed_le (log : List Msg) (p : Nat → Bool) (i : Nat) (m : Msg) (k : Nat) (h : log[i]? = some m)
    (hs : secOf m = some k) (hp : p k = true) : firstTimed log p ≤ i := by
  unfold firstTimed
  exact first_le log _ i m h (by simp only [hs]; exact hp)

theorem firstTimed_gt (log : List Msg) (p : Nat → Bool) (i : Nat) (hi : i < log.length)
    (h : ∀ j mj tj, j ≤ i → log[j]? = some mj → secOf mj = some tj → p tj = false) : i < firstTimed log p := by
  unfold firstTimed
  apply first_gt log _ i hi
  intro j mj hj hmj
  cases hs : secOf mj with
  | none => rfl
  | some tj => simp only; exact h j mj tj hj hmj hs

/-- For a P1-timed message the positional test is a test on its own (whole-second) time. -/
theorem inTime_timed (log : List Msg) (hmono : TimesMonotone log) (start stop : Option Nat) (i : Nat) (m : Msg)
    (t : Nat) (hi : log[i]? = some m) (ht : m.timeNs = some t) :
    inTime log start stop i =
      ((match start with | none => true | some st => decide (t / NS ≥ st / NS)) &&
       (match stop with | none => true | some sp => decide (t / NS * NS < sp))) := by
  have hil : i < log.length := (List.getElem?_eq_some_iff.1 hi).1
  have hsec : secOf m = some (t / NS) := by rw [secOf, ht]; rfl
  -- A test `p` that stays true as time grows is passed by some timed message up to `i` iff message `i`
  -- passes it: the earlier timed messages are not later than `t`.
  have key : ∀ p : Nat → Bool, (∀ a b, a ≤ b → p a = true → p b = true) →
      (firstTimed log p ≤ i ↔ p (t / NS) = true) := by
    intro p hp
    refine ⟨fun hle => ?_, firstTimed_le log p i m (t / NS) hi hsec⟩
    refine Decidable.by_contra fun hn => Nat.not_lt.2 hle (firstTimed_gt log p i hil ?_)
    intro j mj tj hj hmj hs
    obtain ⟨tjn, hjt, rfl⟩ := Option.map_eq_some_iff.1 hs
    have := Nat.div_le_div_right (c := NS) (hmono j i mj m tjn t hj hmj hi hjt ht)
    exact Bool.eq_false_iff.2 fun h => hn (hp _ _ this h)
  unfold inTime specStart specStop
  congr 1
  · cases start with
    | none => simp
    | some st =>
      have := key (fun a => decide (a ≥ st / NS)) fun a b hab h => by simp at h ⊢; omega
      rw [decide_eq_decide, this, decide_eq_true_eq]
  · cases stop with
    | none => simp [hil]
    | some sp =>
      have := key (fun a => decide (a * NS ≥ sp)) fun a b hab h => by
        have := Nat.mul_le_mul_right NS hab
        simp at h ⊢; omega
      rw [decide_eq_decide, ← Nat.not_le, this, decide_eq_true_eq, Nat.not_le]

/-- **Exact bounds for whole seconds.** If start and end are whole seconds, a P1-timed message is in
range exactly when `start ≤ t < end`. -/
theorem C10_time_bounds_exact (log : List Msg) (hmono : TimesMonotone log) (s e : Nat) (i : Nat) (m : Msg)
    (t : Nat) (hi : log[i]? = some m) (ht : m.timeNs = some t) :
    inTime log (some (s * NS)) (some (e * NS)) i = (decide (s * NS ≤ t) && decide (t < e * NS)) := by
  rw [inTime_timed log hmono _ _ i m t hi ht]
  have hNS : 0 < NS := by decide
  simp only
  congr 1
  · rw [Nat.mul_div_cancel _ hNS]
    simp only [decide_eq_decide, ge_iff_le]
    exact Nat.le_div_iff_mul_le hNS
  · simp only [decide_eq_decide]
    rw [Nat.mul_lt_mul_right hNS]
    exact Nat.div_lt_iff_lt_mul hNS

/-- **Slack for fractional bounds.** For arbitrary bounds: every P1-timed message inside `[start, end)`
is returned, and a returned one is later than `start − 1 s` and earlier than `end + 1 s`. -/
theorem C10_time_bounds_slack (log : List Msg) (hmono : TimesMonotone log) (s e : Nat) (i : Nat) (m : Msg)
    (t : Nat) (hi : log[i]? = some m) (ht : m.timeNs = some t) :
    (s ≤ t ∧ t < e → inTime log (some s) (some e) i = true) ∧
    (inTime log (some s) (some e) i = true → s < t + NS ∧ t < e + NS) := by
  rw [inTime_timed log hmono _ _ i m t hi ht]
  simp only [Bool.and_eq_true, decide_eq_true_eq]
  have ht := floor_NS t
  have hs := floor_NS s
  constructor
  · rintro ⟨h1, h2⟩
    exact ⟨Nat.div_le_div_right h1, by omega⟩
  · rintro ⟨h1, h2⟩
    have := Nat.mul_le_mul_right NS h1
    omega

/-- **Relative ranges.** A relative range `[s, e)` is anchored at the index's whole-second `t0`
(the floor of the true first P1 time `T0`), as `bounds` computes it. Then a P1-timed message at least
one second inside `[T0 + s, T0 + e)` is returned, and a returned one is less than two seconds before
`T0 + s` and less than one second after `T0 + e`. -/
theorem C10_time_bounds_relative (log : List Msg) (hmono : TimesMonotone log) (T0 s e : Nat) (i : Nat) (m : Msg)
    (t : Nat) (hi : log[i]? = some m) (ht : m.timeNs = some t) :
    bounds ⟨false, some s, some e, none⟩ (some (T0 / NS)) = (some (T0 / NS * NS + s), some (T0 / NS * NS + e)) ∧
    (T0 + s + NS ≤ t ∧ t + NS < T0 + e → inTime log (some (T0 / NS * NS + s)) (some (T0 / NS * NS + e)) i = true) ∧
    (inTime log (some (T0 / NS * NS + s)) (some (T0 / NS * NS + e)) i = true → T0 + s < t + 2 * NS ∧ t < T0 + e + NS) := by
  have h0 := floor_NS T0
  have hs := C10_time_bounds_slack log hmono (T0 / NS * NS + s) (T0 / NS * NS + e) i m t hi ht
  refine ⟨rfl, fun ⟨ha, hb⟩ => hs.1 ⟨by omega, by omega⟩, fun h => ?_⟩
  have := hs.2 h
  omega

/-- **A range entirely after the log returns nothing** (no P1 time at or after the floored start). -/
theorem C10_range_after_log_empty (log : List Msg) (s : Nat) (stop : Option Nat)
    (hafter : ∀ m ∈ log, ∀ t, m.timeNs = some t → t / NS < s / NS) (i : Nat) (hi : i < log.length) :
    inTime log (some s) stop i = false := by
  have : i < firstTimed log fun t => decide (t ≥ s / NS) := by
    refine firstTimed_gt log _ i hi fun j mj tj _ hmj hs => ?_
    obtain ⟨tn, hmt, rfl⟩ := Option.map_eq_some_iff.1 hs
    exact decide_eq_false (Nat.not_le.2 (hafter mj (List.mem_of_getElem? hmj) tn hmt))
  simp [inTime, specStart, Nat.not_le.2 this]

/-! ### The time range handed to `filter_in_place()` of a reader constructed with the other criteria

`Reader.constructThenFilterTime` is what the index path of `filter_in_place()` computes: the positional time
slice of the CURRENT (type-filtered) index.  It is the cursor model's `filterTime` step (the one C11 refines);
without a type filter it is the constructor's own chain, so `C10_read_eq_filterSpec` covers it; with a type
filter it is not the specification: an untimed message of a selected type is then placed among the selected
types only (finding `C10/filter-in-place-time-range-on-type-filtered-reader`, witnessed below). -/

/-- Without a type filter both routes are the same function. -/
theorem C10_filter_in_place_route_no_types (log : List Msg) (range : Option TRange) :
    constructThenFilterTime log none range = construct log none range := by
  unfold constructThenFilterTime construct applyRange applyTypes
  cases range <;> simp

/-- Hence: a reader without a type filter that is given its time range through `filter_in_place()` returns
exactly the specified messages. -/
theorem C10_filter_in_place_route_no_types_spec (log : List Msg) (hwf : LogWF log) (c : Crit) (hc : c.types = none) :
    (constructThenFilterTime log c.types c.range).map (readAll log c.sources c.maxBytes false) = filterSpec log c := by
  rw [← C10_read_eq_filterSpec log hwf c, hc, C10_filter_in_place_route_no_types]

/-- The route is the cursor model's `filterTypes` step followed by its `filterTime` step (a refused range
leaves the type-filtered index in place and raises). -/
theorem C10_filter_in_place_route_is_cursor_step (log : List Msg) (ts : List Nat) (r : TRange) :
    (step (step (Cur.init (indexOf log)) (.filterTypes ts)).1 (.filterTime r)).1.cur =
      (constructThenFilterTime log (some ts) (some r)).getD (sliceByTypes (indexOf log) ts) := by
  simp only [step, Cur.init, Cur.withCur, constructThenFilterTime, applyTypes]
  cases sliceByRange (sliceByTypes (indexOf log) ts) (t0Of (indexOf log)) r <;> rfl

def openFindingLog : List Msg :=
  [⟨0, 30, 2, 0, some 0⟩, ⟨30, 30, 1, 0, none⟩, ⟨60, 30, 1, 0, some 1000000000⟩, ⟨90, 30, 2, 0, some 5000000000⟩]

def openFindingRange : TRange := ⟨false, some 0, some 2000000000, none⟩

/-- **Open finding, witnessed.** Messages of type 1 in the first two seconds of a log `[type 2 at 0 s,
type 1 untimed, type 1 at 1 s, type 2 at 5 s]`: the specification and the constructor return the untimed
message 1 and message 2; `MixedLogReader(message_types=[1]).filter_in_place(TimeRange(0, 2))` returns
message 2 only, because the untimed message precedes the first timed message *of type 1*. -/
theorem C10_filter_in_place_after_types_open :
    filterSpec openFindingLog ⟨some [1], some openFindingRange, none, none⟩ = some [1, 2] ∧
    (construct openFindingLog (some [1]) (some openFindingRange)).map (readAll openFindingLog none none false)
      = some [1, 2] ∧
    (constructThenFilterTime openFindingLog (some [1]) (some openFindingRange)).map
      (readAll openFindingLog none none false) = some [2] := by
  decide

/-- Same mechanism when no selected type carries P1 time: the route returns nothing (type 1 selected, log
cut after the untimed message). -/
theorem C10_filter_in_place_after_untimed_types_open :
    filterSpec (openFindingLog.take 2) ⟨some [1], some openFindingRange, none, none⟩ = some [1] ∧
    (constructThenFilterTime (openFindingLog.take 2) (some [1]) (some openFindingRange)).map
      (readAll (openFindingLog.take 2) none none false) = some [] := by
  decide

end FeVerif
