/-
C05 — decoder output is independent of how the stream is split into chunks.
Same model as C04.  Payload *field values* are a function of the message's own bytes
(the decoder hands `unpack` exactly the message, see the tie in tools/props/c05.py), so equality of
(offset, length) lists and of the final state gives equality of everything delivered.
-/
import FeVerif.Props.C04

namespace FeVerif

/-- Any two partitions of the same stream give the same concatenated results and leave the decoder
in the same state (buffer, cached header, processed count). -/
theorem C05_chunking_independent (m : Nat) (parts₁ parts₂ : List Bytes)
    (h : parts₁.flatten = parts₂.flatten) :
    pyFeed m PyDec.init parts₁ = pyFeed m PyDec.init parts₂ := by
  rw [C04_decoder_refines_scan, C04_decoder_refines_scan, h]

/-- In particular: one call with everything, or one call per byte. -/
theorem C05_one_call_vs_bytewise (m : Nat) (stream : Bytes) :
    pyFeed m PyDec.init [stream] = pyFeed m PyDec.init (stream.map fun b => [b]) := by
  exact C05_chunking_independent m _ _
    (by rw [List.flatten_singleton, ← List.flatMap_def, List.flatMap_singleton'])

/-- Results after a prefix of the calls are the scan of the prefix of the stream: so the results of
the first `k` calls are a prefix of the results of all calls (nothing is delivered early, reordered
or retracted). -/
theorem C05_prefix_results (m : Nat) (calls more : List Bytes) :
    (pyFeed m PyDec.init (calls ++ more)).1 =
      (pyFeed m PyDec.init calls).1 ++
        ((cfgPy m).run (((cfgPy m).run calls.flatten 0).rest ++ more.flatten)
          ((cfgPy m).run calls.flatten 0).off).msgs := by
  rw [C04_decoder_refines_scan, C04_decoder_refines_scan, List.flatten_append, Cfg.run_append]

/-- **Delivery time.** Let the whole stream be `pre ++ post` and let `(o, n)` be a message the
decoder returns for it that ends within `pre` (its last byte has been supplied once `pre` is in).
Then it has been returned by the calls that supplied `pre` — unless the decoder is still waiting
on an *earlier* candidate: a position `q < o` with an accepted header whose announced length runs
past the end of `pre` (and therefore past the whole of the message).  Such a candidate has to be
judged first, because if its CRC matches it is the message and `(o, n)` is payload inside it. -/
theorem C05_delivered_with_last_byte (m : Nat) (pre post : Bytes) (o n : Nat)
    (hmem : (o, n) ∈ ((cfgPy m).run (pre ++ post) 0).msgs) (hend : o + n ≤ pre.length) :
    (o, n) ∈ ((cfgPy m).run pre 0).msgs ∨
      (∃ q, q < o ∧ q = ((cfgPy m).run pre 0).off ∧
        pyHeaderOk m ((pre.drop q).take HDR) = true ∧ pre.length < q + (cfgPy m).msgLen (pre.drop q)) := by
  rcases Cfg.run_delivered pre post 0 o n hmem (by omega) with h | ⟨h1, h2, h3⟩
  · exact .inl h
  · obtain ⟨_, hrest, _⟩ := Cfg.run_rest (c := cfgPy m) pre 0
    have hcons := Cfg.run_conserve (c := cfgPy m) pre 0
    rw [Nat.sub_zero] at hrest
    rw [hrest] at h2 h3 hcons
    rw [List.length_drop] at h3 hcons
    exact .inr ⟨_, h1, rfl, h2, by omega⟩

/-- **Calls compose, from any decoder state** (not only a fresh decoder): the results of `calls ++ more`
are the results of `calls` followed by the results of `more` fed to the state `calls` left behind, and
the final states agree.  With `C05_chunking_independent` this makes a session of `on_data` calls a
monoid action on decoder states: a caller may stop after any call, hand the decoder to other code and
have it continued there, with no difference to the result.  No hypothesis on `s` (it may hold a cached
header, leftover bytes, any processed count). -/
theorem C05_calls_compose (m : Nat) (s : PyDec) (calls more : List Bytes) :
    pyFeed m s (calls ++ more) =
      ((pyFeed m s calls).1 ++ (pyFeed m (pyFeed m s calls).2 more).1,
        (pyFeed m (pyFeed m s calls).2 more).2) :=
  C04_calls_append m s calls more

/-- Empty calls are invisible, in any state and at any place of a session. -/
theorem C05_empty_call_invisible (m : Nat) (s : PyDec) (calls more : List Bytes) :
    pyFeed m s (calls ++ [] :: more) = pyFeed m s (calls ++ more) := by
  rw [C05_calls_compose, C05_calls_compose]
  simp [pyFeed, pyOnData]

end FeVerif
