/-
C02 — the Python wire layout equals the canonical C++ packed-struct layout.

`cxxStructs` (Generated/C02CxxLayout.lean) is the layout of every `P1_ALIGNAS(4)` struct of
`src/point_one/fusion_engine/messages/*.h` as printed by a probe program compiled with the real headers:
`sizeof`, `alignof`, and per member `offsetof`, `sizeof`, kind, extent.  `descriptor s` is the list of
(name, width, kind) the generic codec `parseFixed` / `buildFixed` (Model/FixedLayout.lean) works from.

What is proved here:
  * about the table (re-decided whenever the headers change): every struct is packed — members in
    declaration order tile `[0, sizeof)` — also after replacing struct-typed members by their own members;
  * the codec reads/writes member `i` exactly at the compiler's `offsetof`/`sizeof` (descriptor ↔ table);
  * generically, by induction over the descriptor: field isolation in both directions and the round trip,
    i.e. two implementations of the same descriptor interpret each other's bytes identically.
That the *Python* classes implement the descriptor is the job of the exhaustive member probing in
tools/props/c02.py (every leaf member × several bit patterns × both directions), not of a theorem.
-/
import FeVerif.Proofs.CxxTable

namespace FeVerif
open FixedLayout C02Gen

/-- Every C++ struct is packed: members sorted by offset, non-overlapping, contiguous from offset 0,
none empty, sizes adding up to `sizeof`, and `sizeof` a multiple of the 4-byte alignment. -/
theorem C02_cxx_layout_packed : ∀ s ∈ cxxStructs, Packed s :=
  fun s hs => packedB_sound (all_packed s hs)

/-- Extents and element sizes multiply out; a struct-typed member has exactly the size of the table
entry it names (so replacing it by that struct's members is meaningful). -/
theorem C02_cxx_members_well_shaped : ∀ s ∈ cxxStructs, ∀ m ∈ s.members, MemberShape cxxStructs m := by
  intro s hs m hm
  have h := all_shapes s hs
  simp only [shapesB, List.all_eq_true] at h
  exact memberShapeB_sound (h m hm)

/-- The same after flattening nested structs (Timestamp, MeasurementDetails, InterfaceID, DataVersion …):
the leaf members — the units the Python probing works on — tile `[0, sizeof)` as well. -/
theorem C02_cxx_nested_layout_packed : ∀ s ∈ cxxStructs,
    ∃ leaves, flatten cxxStructs s = some leaves ∧ Packed { s with members := leaves } := by
  intro s hs
  obtain ⟨leaves, hl, ht⟩ := flatB_sound (all_flat s hs)
  exact ⟨leaves, hl, packedB_sound (packedB_iff.2 ⟨ht, (packedB_iff.1 (all_packed s hs)).2⟩)⟩

/-- README ("Message Packing"): every `float`/`double` member, also inside nested structs, starts on a
4-byte boundary of the message. -/
theorem C02_cxx_floats_4byte_aligned : ∀ s ∈ cxxStructs, ∀ leaves, flatten cxxStructs s = some leaves →
    ∀ m ∈ leaves, m.elemKind = .f → m.offset % 4 = 0 := by
  intro s hs leaves hl m hm hk
  have h := all_falign s hs
  simp only [floatsAlignedB, hl, List.all_eq_true] at h
  simpa [hk] using h m hm

/-- Struct names are unique and no two structs claim the same `MESSAGE_TYPE`: "the Python class for this
struct" (by message type) is well defined. -/
theorem C02_cxx_keys_distinct :
    (cxxStructs.map (·.name)).Nodup ∧ (cxxStructs.filterMap (·.msgType)).Nodup := by
  have h := keys_distinct
  simp only [keysDistinctB, Bool.and_eq_true] at h
  exact ⟨nodupB_sound h.1, nodupB_sound h.2⟩

/-- The descriptor the codec uses has the table's member names, and its running offsets and widths are
exactly the compiler's `(offsetof, sizeof)` pairs; its total width is `sizeof`. -/
theorem C02_descriptor_matches_cxx : ∀ s ∈ cxxStructs,
    (descriptor s).map (·.name) = s.members.map (·.name) ∧
    offsetsOf (descriptor s) 0 = s.members.map (fun m => (m.offset, m.size)) ∧
    totalWidth (descriptor s) = s.sizeof := by
  intro s hs
  exact ⟨by simp [descriptor, Member.toField], offsetsOf_of_tiled (all_tiled s hs), totalWidth_of_tiled (all_tiled s hs)⟩

/-- Same for the flattened (leaf) descriptor. -/
theorem C02_flat_descriptor_matches_cxx : ∀ s ∈ cxxStructs,
    ∃ leaves, flatten cxxStructs s = some leaves ∧
      flatDescriptor cxxStructs s = leaves.map Member.toField ∧
      offsetsOf (flatDescriptor cxxStructs s) 0 = leaves.map (fun m => (m.offset, m.size)) ∧
      totalWidth (flatDescriptor cxxStructs s) = s.sizeof := by
  intro s hs
  obtain ⟨leaves, hl, ht⟩ := flatB_sound (all_flat s hs)
  have hd : flatDescriptor cxxStructs s = leaves.map Member.toField := by simp only [flatDescriptor, hl]
  exact ⟨leaves, hl, hd, hd ▸ offsetsOf_of_tiled ht, hd ▸ totalWidth_of_tiled ht⟩

/-- Parsing with a struct's descriptor yields, for member `i`, its name and exactly the bytes
`[offsetof, offsetof + sizeof)` of the input, with the numbers the C++ compiler reported. -/
theorem C02_member_read_at_cxx_offset : ∀ s ∈ cxxStructs, ∀ (bs : Bytes) (vs : List (Nat × Bytes)),
    parseFixed (descriptor s) bs = some vs → ∀ i, (hi : i < s.members.length) →
      vs[i]? = some (s.members[i].name, slice bs s.members[i].offset s.members[i].size) := by
  intro s hs bs vs hp i hi
  have hi' : i < (descriptor s).length := by simpa [descriptor] using hi
  rw [parseFixed_getElem? hp i hi']
  have ho := offsetOf_descriptor_of_tiled (all_tiled s hs) i hi
  simp only [descriptor] at ho ⊢
  rw [ho]
  simp [Member.toField]

/-- Parsing succeeds exactly when at least `sizeof` bytes are given (the fixed-part size). -/
theorem C02_fixed_size_is_sizeof : ∀ s ∈ cxxStructs, ∀ bs : Bytes,
    (parseFixed (descriptor s) bs).isSome = true ↔ s.sizeof ≤ bs.length := by
  intro s hs bs
  rw [parseFixed_isSome, (C02_descriptor_matches_cxx s hs).2.2]

/-- Reading direction. Overwriting the bytes of member `i` (at the descriptor's offset, with its width)
changes field `i` of the parse to the new bytes and changes no other field. -/
theorem C02_field_isolation_parse (d : List Field) (bs : Bytes) (vs : List (Nat × Bytes)) (i : Nat)
    (hi : i < d.length) (new : Bytes) (hn : new.length = d[i].width) (hp : parseFixed d bs = some vs) :
    parseFixed d (overwrite bs (offsetOf d i) new) = some (vs.set i (d[i].name, new)) ∧
    ∀ j, j ≠ i → (vs.set i (d[i].name, new))[j]? = vs[j]? :=
  ⟨parse_overwrite d bs vs i hi new hn hp, fun _ hj => List.getElem?_set_ne (Ne.symm hj)⟩

/-- Writing direction. Changing value `i` changes exactly the bytes `[offset i, offset i + width i)` of
the serialisation: they become the new value, every other byte is as before, the length is unchanged. -/
theorem C02_field_isolation_build (d : List Field) (vs : List (Nat × Bytes)) (bs : Bytes) (i : Nat)
    (hi : i < d.length) (new : Bytes) (hn : new.length = d[i].width) (hb : buildFixed d vs = some bs) :
    ∃ bs', buildFixed d (vs.set i (d[i].name, new)) = some bs' ∧
      bs'.length = bs.length ∧
      slice bs' (offsetOf d i) d[i].width = new ∧
      ∀ k, k < offsetOf d i ∨ offsetOf d i + d[i].width ≤ k → bs'[k]? = bs[k]? := by
  have hb' := build_set d vs bs i hi new hn hb
  have hlen := (buildFixed_length hb).1
  have hfit : offsetOf d i + new.length ≤ bs.length := by
    rw [hlen, hn]
    exact offsetOf_add_width_le d i hi
  refine ⟨_, hb', overwrite_length _ _ _ hfit, ?_, ?_⟩
  · rw [← hn]; exact overwrite_slice _ _ _ (by omega)
  · intro k hk
    exact overwrite_getElem?_outside _ _ _ _ hfit (by rw [hn]; exact hk)

/-- Field isolation at the C++ compiler's offsets: for a struct of the table, overwriting
`[offsetof m, offsetof m + sizeof m)` changes exactly field `m` of the parse. -/
theorem C02_field_isolation_at_cxx_offsets : ∀ s ∈ cxxStructs, ∀ (bs : Bytes) (vs : List (Nat × Bytes)) (i : Nat)
    (hi : i < s.members.length) (new : Bytes), new.length = s.members[i].size →
    parseFixed (descriptor s) bs = some vs →
    parseFixed (descriptor s) (overwrite bs s.members[i].offset new) = some (vs.set i (s.members[i].name, new)) := by
  intro s hs bs vs i hi new hn hp
  exact isolation_of_tiled (all_tiled s hs) bs vs i hi new hn hp

/-- The same for the flattened members (the units of the Python probing): overwriting the bytes of one
leaf — e.g. `details.measurement_time.seconds` at its absolute offset — changes exactly that leaf. -/
theorem C02_leaf_isolation_at_cxx_offsets : ∀ s ∈ cxxStructs, ∀ leaves, flatten cxxStructs s = some leaves →
    ∀ (bs : Bytes) (vs : List (Nat × Bytes)) (i : Nat) (hi : i < leaves.length) (new : Bytes),
    new.length = leaves[i].size → parseFixed (leaves.map Member.toField) bs = some vs →
    parseFixed (leaves.map Member.toField) (overwrite bs leaves[i].offset new) =
      some (vs.set i (leaves[i].name, new)) := by
  intro s hs leaves hl bs vs i hi new hn hp
  obtain ⟨ls, hl', ht⟩ := flatB_sound (all_flat s hs)
  cases hl.symm.trans hl'
  exact isolation_of_tiled ht bs vs i hi new hn hp

/-- Mutual interpretation. Bytes built from values by one implementation of a descriptor parse, by any
other implementation of the same descriptor, to the same values — whatever follows the record; and the
values parsed from a record build back to the record's own bytes. -/
theorem C02_bytes_interpreted_identically (d : List Field) :
    (∀ vs bs tail, buildFixed d vs = some bs → parseFixed d (bs ++ tail) = some vs) ∧
    (∀ bs vs, parseFixed d bs = some vs → buildFixed d vs = some (bs.take (totalWidth d))) :=
  ⟨fun _ _ tail h => parse_build h tail, fun _ _ h => build_parse h⟩

/-- The table is the real one: more than sixty structs, none without members. -/
theorem C02_table_nonempty : 60 ≤ cxxStructs.length ∧ ∀ s ∈ cxxStructs, s.members ≠ [] := by decide +kernel

private def exDesc : List Field := [⟨1, 2, .u⟩, ⟨2, 1, .bool⟩, ⟨3, 3, .bytes⟩, ⟨4, 4, .f⟩]
private def exBytes : Bytes := [1, 2, 3, 4, 5, 6, 7, 8, 9, 10, 11]

#guard parseFixed exDesc exBytes == some [(1, [1, 2]), (2, [3]), (3, [4, 5, 6]), (4, [7, 8, 9, 10])]
#guard parseFixed exDesc (exBytes.take 9) == none
#guard parseFixed exDesc (overwrite exBytes (offsetOf exDesc 2) [0xAA, 0xBB, 0xCC]) ==
  some [(1, [1, 2]), (2, [3]), (3, [0xAA, 0xBB, 0xCC]), (4, [7, 8, 9, 10])]
#guard buildFixed exDesc [(1, [1, 2]), (2, [3]), (3, [4, 5, 6]), (4, [7, 8, 9, 10])] == some (exBytes.take 10)
#guard buildFixed exDesc [(2, [3]), (1, [1, 2]), (3, [4, 5, 6]), (4, [7, 8, 9, 10])] == none
#guard (cxxStructs.filter (fun s => (flatten cxxStructs s).map (·.length) != some s.members.length)).length ≥ 30

end FeVerif
