/-
C01 — message payloads survive serialize/parse unchanged, with consistent sizes.

The wire formats of the Python message classes are written in the layout language of
`FeVerif/Model/Layout.lean` (descriptors: `FeVerif/Generated/C01Layouts.lean`, regenerated from the working
tree by tools/c01_py_extract.py and tied to the classes by the correspondence stage of tools/props/c01.py).
The theorems are generic: proved once by induction over `Layout`, for every byte string and every size of
every variable part, under the decidable well-formedness predicate `WF`; `C01_all_layouts_wf` discharges `WF`
for every concrete descriptor.

Float-arithmetic value codecs (`CodecId.ext`: Timestamp seconds+ns, decimal fixed point, sentinel scalings)
enter only through the hypothesis `ExtStable E (extUses l)`; nothing is proved through `Float`.  Their
stability is tested on the implementation (tools/props/c01.py).  PARTIAL in exactly this respect:
the full statement for a class that uses such a codec is `C01_parse_build` + the tested hypothesis.
-/
import FeVerif.Proofs.Layout
import FeVerif.Generated.C01Layouts

namespace FeVerif
open Lay

/-- Core form: whatever parses (in any count/tag context) can be rebuilt; the serialisation, followed by any
suffix, parses to the identical values and leaves exactly the suffix; and the serialisation is never longer
than what the first parse consumed. -/
theorem C01_roundtrip_core (E : Env) (l : Layout) (hwf : WF l) (hE : ExtStable E (extUses l))
    (bs : Bytes) (vals : List Value) (r : Bytes) (h : parseGo E l [] [] bs = some (vals, r)) :
    ∃ out, buildGo E l [] vals = some out ∧ out.length + r.length ≤ bs.length ∧
      ∀ post, (endsGreedy l = true → post = []) → parseGo E l [] [] (out ++ post) = some (vals, post) :=
  (rt E l).top hwf hE h

/-- What parses can be rebuilt, and re-parses to the identical value with all of the serialisation consumed. -/
theorem C01_parse_build (E : Env) (l : Layout) (hwf : WF l) (hE : ExtStable E (extUses l))
    (bs : Bytes) (v : Value) (n : Nat) (h : parse E l bs = some (v, n)) :
    ∃ bs', build E l v = some bs' ∧ parse E l bs' = some (v, bs'.length) := by
  obtain ⟨out, hb, _, _, hre⟩ := parse_roundtrip E l hwf hE h
  exact ⟨out, hb, by simpa using hre [] (fun _ => rfl)⟩

/-- The second serialisation reproduces the same bytes. -/
theorem C01_build_idem (E : Env) (l : Layout) (hwf : WF l) (hE : ExtStable E (extUses l))
    (bs : Bytes) (v : Value) (n : Nat) (h : parse E l bs = some (v, n))
    (bs' : Bytes) (hb : build E l v = some bs') (v' : Value) (n' : Nat) (hp : parse E l bs' = some (v', n')) :
    build E l v' = some bs' := by
  obtain ⟨b2, hb2, hp2⟩ := C01_parse_build E l hwf hE bs v n h
  cases hb.symm.trans hb2
  cases hp.symm.trans hp2
  exact hb

/-- After the first parse the three sizes agree: bytes consumed by parsing the serialisation = length of the
serialisation = self-reported size (of the object and of the re-parsed object); the first parse consumed at
least that much (it may have skipped bytes the value does not keep: NUL padding, unread tail of a
length-delimited sub-payload). -/
theorem C01_sizes_agree (E : Env) (l : Layout) (hwf : WF l) (hE : ExtStable E (extUses l))
    (bs : Bytes) (v : Value) (n : Nat) (h : parse E l bs = some (v, n))
    (bs' : Bytes) (hb : build E l v = some bs') :
    parse E l bs' = some (v, bs'.length) ∧ bs'.length = sizeOf l v ∧ bs'.length ≤ n := by
  obtain ⟨out, hb', hs, hn, hre⟩ := parse_roundtrip E l hwf hE h
  cases hb.symm.trans hb'
  exact ⟨by simpa using hre [] (fun _ => rfl), hs, hn⟩

/-- Reading at an offset of a larger buffer is reading the bytes from that offset on. -/
theorem C01_offset_independent (E : Env) (l : Layout) (pre bs : Bytes) :
    parseAt E l (pre ++ bs) pre.length = parse E l bs := by
  unfold parseAt
  rw [if_neg (by simp), List.drop_left]

/-- The serialisation of a parsed object, placed anywhere in a buffer and followed by anything, parses to the
same value and consumes exactly its own length (layouts ending in a greedy item excepted: they read to the
end of the buffer by definition). -/
theorem C01_reparse_in_buffer (E : Env) (l : Layout) (hwf : WF l) (hE : ExtStable E (extUses l))
    (hg : endsGreedy l = false)
    (bs : Bytes) (v : Value) (n : Nat) (h : parse E l bs = some (v, n))
    (bs' : Bytes) (hb : build E l v = some bs') (pre post : Bytes) :
    parseAt E l (pre ++ (bs' ++ post)) pre.length = some (v, bs'.length) := by
  obtain ⟨out, hb', _, _, hre⟩ := parse_roundtrip E l hwf hE h
  cases hb.symm.trans hb'
  rw [C01_offset_independent]
  exact hre post (fun hg' => by rw [hg] at hg'; cases hg')

/-- Writing into a caller-supplied buffer changes only `[off, off + size)`, puts exactly the serialisation
there, and keeps the buffer length. -/
theorem C01_buildInto_frame (E : Env) (l : Layout) (v : Value) (buf buf' : Bytes) (off : Nat)
    (h : buildInto E l v buf off = some buf') :
    ∃ out, build E l v = some out ∧ buf'.length = buf.length ∧ buf'.take off = buf.take off ∧
      (buf'.drop off).take out.length = out ∧ buf'.drop (off + out.length) = buf.drop (off + out.length) := by
  unfold buildInto at h
  split at h; · cases h
  rename_i out hb
  split at h; · cases h
  simp only [Option.some.injEq] at h; subst h
  have h1 : (buf.take off).length = off := by simp [List.length_take]; omega
  refine ⟨out, hb, ?_, ?_, ?_, ?_⟩
  · simp only [List.length_append, List.length_take, List.length_drop]; omega
  · rw [List.append_assoc]; exact List.take_left' h1
  · rw [List.append_assoc, List.drop_left' h1]; simp
  · exact List.drop_left' (by rw [List.length_append, h1])

/-- Library-allocated buffer (`pack()` without arguments allocates `calcsize()` zero bytes and writes at 0)
= serialisation. -/
theorem C01_library_buffer (E : Env) (l : Layout) (v : Value) (out : Bytes) (hb : build E l v = some out) :
    buildInto E l v (zeros out.length) 0 = some out := by
  simp [buildInto, hb]

/-! ### value codecs: the `Stable` law, proved for every codec that does no float arithmetic -/

theorem C01_stable_identity (w : Nat) : Stable uintCodec w ∧ (1 ≤ w → Stable sintCodec w) :=
  ⟨uint_stable w, sint_stable w⟩
theorem C01_stable_bool (w : Nat) (h : 1 ≤ w) : Stable boolCodec w := bool_stable w h
theorem C01_stable_enum_strict (ms : List Nat) (w : Nat) : Stable (enumStrictCodec ms) w := enumStrict_stable ms w
/-- lenient enumerations keep the unknown integer: decode is the identity on the raw number -/
theorem C01_stable_enum_lenient (E : Env) (ms : List Nat) (w r : Nat) :
    Stable (codecOf E (.enumLenient ms)) w ∧ (codecOf E (.enumLenient ms)).dec w r = some (.int r) :=
  ⟨uint_stable w, rfl⟩
theorem C01_stable_fixed_bytes (w : Nat) : Stable rawCodec w := raw_stable w
/-- floats as bit patterns, every NaN pattern identified with the canonical quiet NaN -/
theorem C01_stable_float_bits : Stable f32Codec 4 ∧ Stable f64Codec 8 := ⟨f32_stable, f64_stable⟩
theorem C01_stable_discard (fill w : Nat) (h : fill < 256 ^ w) : Stable (discardCodec fill) w := discard_stable fill w h
/-- counted / fixed ASCII strings: NUL stripping is idempotent and padding is transparent -/
theorem C01_string_stable (b : Bytes) (k : Nat) :
    stripZ (stripZ b ++ zeros k) = stripZ b ∧ (isAscii b = true → isAscii (stripZ b ++ zeros k) = true) :=
  text_padded b k

/-- Every generated descriptor is well formed: count fields precede what they count and are used exactly once,
switch tags precede the switch, codecs sit on fields of the right width, nested layouts are closed and
greedy items are last.  Re-checked whenever the generated file changes. -/
theorem C01_all_layouts_wf : ∀ p ∈ Gen.allLayouts, WF p.2 := by decide +kernel

/-- The float-arithmetic codecs (id, width) that the descriptors use. -/
def c01ExtUsed : List (Nat × Nat) := Gen.allLayouts.flatMap (fun p => extUses p.2)

/-- Per-class statement: for every descriptor, under the (tested) stability of the float codecs it uses. -/
theorem C01_every_class_roundtrip_partial (E : Env) (hE : ExtStable E c01ExtUsed) :
    ∀ p ∈ Gen.allLayouts, ∀ bs v n, parse E p.2 bs = some (v, n) →
      ∃ bs', build E p.2 v = some bs' ∧ parse E p.2 bs' = some (v, bs'.length) ∧
        bs'.length = sizeOf p.2 v ∧ bs'.length ≤ n ∧
        (∀ v' n', parse E p.2 bs' = some (v', n') → build E p.2 v' = some bs') := by
  intro p hp bs v n h
  have hwf := C01_all_layouts_wf p hp
  have hE' : ExtStable E (extUses p.2) := fun q hq =>
    hE q (List.mem_flatMap.2 ⟨p, hp, hq⟩)
  obtain ⟨bs', hb, hre⟩ := C01_parse_build E p.2 hwf hE' bs v n h
  obtain ⟨_, hs, hn⟩ := C01_sizes_agree E p.2 hwf hE' bs v n h bs' hb
  exact ⟨bs', hb, hre, hs, hn, fun v' n' hp' => C01_build_idem E p.2 hwf hE' bs v n h bs' hb v' n' hp'⟩

/-
FULL STATEMENT (not a theorem): the same with `E := envOf Gen.extTable` (the executable model of the Python float
codecs) and without `hE`.  It is false of the code as it is: a Timestamp whose nanosecond field is >= 10^9 parses
to a float that re-serialises canonically and re-parses one ulp away (open finding
C01/Timestamp/value-drift:seconds:ns-field>=1e9).  Lean's kernel does not evaluate `Float`, so the witness is
exhibited by the executable check below instead of a `C01_full_fails` theorem.
-/
-- (sec = 0, ns = 0x70000000): parse, build, parse again gives a different value tree
#guard
  let E := envOf Gen.extTable
  let l := Gen.L_Timestamp
  let b0 : Bytes := [0, 0, 0, 0, 0, 0, 0, 0x70]
  match parse E l b0 with
  | some (v, _) =>
    match build E l v with
    | some b1 => (match parse E l b1 with | some (v', _) => v'.text != v.text | none => false)
    | none => false
  | none => false
-- whereas a valid encoding (sec = 58682, ns = 790256926: drifted by 1 ns per cycle before the fix) is stable
#guard
  let E := envOf Gen.extTable
  let l := Gen.L_Timestamp
  let b0 : Bytes := [0x3a, 0xe5, 0, 0, 0x1e, 0x5d, 0x1a, 0x2f]
  (parse E l b0).bind (fun p => build E l p.1) == some b0

/-- Classes whose descriptor uses no float-arithmetic codec: unconditional. -/
theorem C01_every_float_free_class_roundtrip (E : Env) :
    ∀ p ∈ Gen.allLayouts, extUses p.2 = [] → ∀ bs v n, parse E p.2 bs = some (v, n) →
      ∃ bs', build E p.2 v = some bs' ∧ parse E p.2 bs' = some (v, bs'.length) ∧
        bs'.length = sizeOf p.2 v ∧ bs'.length ≤ n := by
  intro p hp hx bs v n h
  have hwf := C01_all_layouts_wf p hp
  have hE' : ExtStable E (extUses p.2) := by rw [hx]; intro q hq; cases hq
  obtain ⟨bs', hb, hre⟩ := C01_parse_build E p.2 hwf hE' bs v n h
  obtain ⟨_, hs, hn⟩ := C01_sizes_agree E p.2 hwf hE' bs v n h bs' hb
  exact ⟨bs', hb, hre, hs, hn⟩

/-! ### non-vacuity (executable checks of the model, not theorems) -/

-- a VersionInfoMessage with NUL-padded text: 23 bytes parse, 19 bytes are rebuilt, which re-parse identically
#guard (parse (envOf Gen.extTable) Gen.L_VersionInfoMessage
    [5,0,0,0,0,0,0,0, 5,0,2,0, 0,0,0,0, 0x61,0x62,0x63,0,0, 0,0]).map (·.2) == some 23
#guard ((parse (envOf Gen.extTable) Gen.L_VersionInfoMessage
    [5,0,0,0,0,0,0,0, 5,0,2,0, 0,0,0,0, 0x61,0x62,0x63,0,0, 0,0]).bind
      (fun p => build (envOf Gen.extTable) Gen.L_VersionInfoMessage p.1)).map List.length == some 19
-- a layout that violates well-formedness (count declared after use) is rejected
#guard decide (WF (.bytes 1 (.ref 2) false (.count 2 1 .nil))) == false
-- the float-free part is not empty
#guard (Gen.allLayouts.filter (fun p => (extUses p.2).isEmpty)).length ≥ 30

end FeVerif
