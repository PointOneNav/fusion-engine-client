/-
C17 — unknown enumeration values are preserved, flagged and history-independent; bit-mask helpers round-trip.

`DynEnum.ofDefined d` is the model of the class object Python builds for `class X(IntEnum): NAME = value ...`
(`d` = the body in order, aliases included), `e.call v strict` the model of `X(v, raise_on_unrecognized=strict)`
(result, new class state), `e.getItem n` of `X[n]`, `e.iter`/`e.len` of `list(X)`/`len(X)`
(FeVerif/Model/DynEnum.lean, tied to enum_utils.py + aenum.extend_enum by tools/props/c17.py, which compares every
answer of every operation script on the real classes).  A *history* is any list of `EnumOp`s: integer conversions,
strict or lenient, and read-only lookups; `e.run ops` is the class after it.  `enumOk d` (at least one member,
distinct names, no name starting with the hidden prefix `_U`) is decided by the kernel for every IntEnum subclass of
the package on each run (FeVerif/Generated/PyEnums.lean); `C17_package_enums` / `C17_package_masks` instantiate the
general theorems with those tables.
-/
import FeVerif.Proofs.DynEnum
import FeVerif.Generated.PyEnums

namespace FeVerif

/-- **Lenient conversion preserves and flags.**  In every reachable state, converting any integer with unrecognised
values permitted succeeds, yields a member whose value is that integer, and the member reports itself unrecognised
exactly when the integer is not a defined value. -/
theorem C17_lenient_preserves (d : List (Name × Int)) (hd : enumOk d = true) (ops : List EnumOp) (v : Int) :
    ∃ m, (((DynEnum.ofDefined d).run ops).call v false).1 = .ok m ∧ m.value = v ∧
      (m.isUnrecognized = true ↔ v ∉ definedValues d) := by
  have B := base_ofDefined hd
  rw [B.run_eq ops, B.call_withExtras]
  cases hv : dget v (DynEnum.ofDefined d).v2m with
  | some m =>
    have hin : v ∈ definedValues d := (ofDefined_known d v).1 (by rw [hv]; rfl)
    exact ⟨m, rfl, (B.v2mVal v m hv).1, by simp [(B.v2mVal v m hv).2, hin]⟩
  | none =>
    exact ⟨hiddenMember v, rfl, rfl, by simp [hiddenMember_unrecognized, (ofDefined_unknown d v).1 hv]⟩

/-- The member returned for an unknown value is the hidden member `_U_<v>`, the same one every time: a second
lenient conversion, at any later point of any history, returns it again. -/
theorem C17_lenient_same_member (d : List (Name × Int)) (hd : enumOk d = true) (ops ops' : List EnumOp) (v : Int)
    (hv : v ∉ definedValues d) :
    (((DynEnum.ofDefined d).run ops).call v false).1 = .ok ⟨hiddenName v, v⟩ ∧
      (((((DynEnum.ofDefined d).run ops).call v false).2.run ops').call v false).1 = .ok ⟨hiddenName v, v⟩ := by
  have B := base_ofDefined hd
  have key : ∀ ops, (((DynEnum.ofDefined d).run ops).call v false).1 = .ok ⟨hiddenName v, v⟩ := by
    intro ops
    rw [B.run_eq ops, B.call_withExtras, (ofDefined_unknown d v).2 hv]; rfl
  refine ⟨key ops, ?_⟩
  have : (((DynEnum.ofDefined d).run ops).call v false).2.run ops' =
      (DynEnum.ofDefined d).run (ops ++ [.conv v false] ++ ops') := by
    rw [DynEnum.run_append, DynEnum.run_append]; rfl
  rw [this]
  exact key _

/-- **Strict conversion refuses.**  In every reachable state - after any history, including histories in which the
same value was converted leniently before - the strict conversion of an integer that is not a defined value raises
`ValueError` and leaves the class unchanged. -/
theorem C17_strict_refuses (d : List (Name × Int)) (hd : enumOk d = true) (ops : List EnumOp) (v : Int)
    (hv : v ∉ definedValues d) :
    ((DynEnum.ofDefined d).run ops).call v true = (.error .valueError, (DynEnum.ofDefined d).run ops) := by
  have B := base_ofDefined hd
  rw [B.run_eq ops, B.call_withExtras, (ofDefined_unknown d v).2 hv]; rfl

/-- ... and it is not vacuous refusal: a defined value is accepted by both conversions in every reachable state, as
the same member as in the fresh class, whose name is a line of the body with that value. -/
theorem C17_defined_accepted (d : List (Name × Int)) (hd : enumOk d = true) (ops : List EnumOp) (v : Int)
    (hv : v ∈ definedValues d) (strict : Bool) :
    ∃ m, ((DynEnum.ofDefined d).run ops).call v strict = (.ok m, (DynEnum.ofDefined d).run ops) ∧
      ((DynEnum.ofDefined d).call v strict).1 = .ok m ∧
      m.value = v ∧ m.isUnrecognized = false ∧ (m.name, v) ∈ d := by
  have B := base_ofDefined hd
  obtain ⟨m, h⟩ := Option.isSome_iff_exists.1 ((ofDefined_known d v).2 hv)
  have h0 := B.call_withExtras [] v strict
  rw [withExtras_nil, h] at h0
  refine ⟨m, ?_, by rw [h0], (ofDefined_v2m_get h).2, (B.v2mVal v m h).2, ?_⟩
  · rw [B.run_eq ops, B.call_withExtras, h]
  · exact (ofDefined_v2m_get h).2 ▸ canonicalMembers_mem (ofDefined_v2m_get h).1

/-- No history changes the state other than by adding hidden members: the class after `ops` is the fresh class plus
one member `_U_<x>` for each distinct unknown value `x` converted leniently, in order of first conversion. -/
theorem C17_reachable_states (d : List (Name × Int)) (hd : enumOk d = true) (ops : List EnumOp) :
    (DynEnum.ofDefined d).run ops = withExtras (DynEnum.ofDefined d) (seenAfter (DynEnum.ofDefined d) [] ops) ∧
      ∀ x ∈ seenAfter (DynEnum.ofDefined d) [] ops, x ∉ definedValues d := by
  refine ⟨(base_ofDefined hd).run_eq ops, fun x hx => (ofDefined_unknown d x).1 ?_⟩
  exact seenAfter_unknown _ ops (xs := []) (fun _ h => nomatch h) x hx

/-- **Defined members, iteration order, length and name lookups are history-independent.**  After any history:
`list(E)` is what it was (namely the canonical members of the body: first line of every value, in order), `len(E)`
is what it was, every defined name resolves to what it resolved to (a member with the value written on that line),
and every name that neither is nor upper-cases to a hidden name resolves - or fails - as before; the same for the
strict conversion by name. -/
theorem C17_defined_stable (d : List (Name × Int)) (hd : enumOk d = true) (ops : List EnumOp) :
    ((DynEnum.ofDefined d).run ops).iter = .ok (canonicalMembers d) ∧
    (DynEnum.ofDefined d).iter = .ok (canonicalMembers d) ∧
    ((DynEnum.ofDefined d).run ops).len = .ok (canonicalMembers d).length ∧
    (DynEnum.ofDefined d).len = .ok (canonicalMembers d).length ∧
    (∀ p ∈ d, ∃ m, ((DynEnum.ofDefined d).run ops).getItem p.1 = .ok m ∧ (DynEnum.ofDefined d).getItem p.1 = .ok m ∧
        m.value = p.2 ∧ m.isUnrecognized = false) ∧
    (∀ n, startsWith n unrecognizedPrefix = false → startsWith (upperName n) unrecognizedPrefix = false →
        ((DynEnum.ofDefined d).run ops).getItem n = (DynEnum.ofDefined d).getItem n ∧
        (((DynEnum.ofDefined d).run ops).callName n true).1 = ((DynEnum.ofDefined d).callName n true).1) := by
  have B := base_ofDefined hd
  have hiter0 := (iter_ofDefined hd).1
  rw [B.run_eq ops]
  refine ⟨by rw [(B.iter_withExtras _).1, hiter0], hiter0, ?_, by simp only [DynEnum.len, hiter0], ?_, ?_⟩
  · rw [B.len_withExtras]; simp only [DynEnum.len, hiter0]
  · intro p hp
    obtain ⟨m, hmc, hm, hv⟩ := lookup_ofDefined hd p hp
    exact ⟨m, DynEnum.getItem_of_dget (withExtras_map_present _ hm), DynEnum.getItem_of_dget hm, hv,
      canonicalMembers_plain hd m hmc⟩
  · intro n h1 h2
    have hg : (withExtras (DynEnum.ofDefined d) (seenAfter (DynEnum.ofDefined d) [] ops)).getItem n =
        (DynEnum.ofDefined d).getItem n := by
      simp only [DynEnum.getItem, withExtras_map_plain _ _ h1, withExtras_map_plain _ _ h2]
    exact ⟨hg, by rw [callName_strict, callName_strict, hg]⟩

/-- **Defined members, iteration and length, stated outright.**  In every reachable state: `list(E)` is the list of
canonical members of the body; these are the lines of the body in declaration order with the later lines of a repeated
value (alias names) left out - a sublist of the body, every defined value exactly once, no hidden member; `len(E)` is
the length of that list, i.e. the number of distinct defined values, NOT the number of names; `list(reversed(E))` is
that list reversed; `E[name]` for every name of the body, alias names included, is the member of that list with the
value written on the line; `v in E` holds exactly for the defined values and `m in E` for every member iteration
yields, while the hidden member of an unknown value is not `in E`. -/
theorem C17_members_iteration_length (d : List (Name × Int)) (hd : enumOk d = true) (ops : List EnumOp) :
    ((DynEnum.ofDefined d).run ops).iter = .ok (canonicalMembers d) ∧
    ((DynEnum.ofDefined d).run ops).len = .ok (canonicalMembers d).length ∧
    ((DynEnum.ofDefined d).run ops).reversedIter = .ok (canonicalMembers d).reverse ∧
    (canonicalMembers d).Sublist (d.map fun p => (⟨p.1, p.2⟩ : EnumMember)) ∧
    ((canonicalMembers d).map (·.value)).Nodup ∧
    (∀ v, v ∈ (canonicalMembers d).map (·.value) ↔ v ∈ definedValues d) ∧
    (∀ m ∈ canonicalMembers d, m.isUnrecognized = false) ∧
    (∀ p ∈ d, ∃ m ∈ canonicalMembers d, ((DynEnum.ofDefined d).run ops).getItem p.1 = .ok m ∧ m.value = p.2) ∧
    (∀ v, ((DynEnum.ofDefined d).run ops).containsValue v = decide (v ∈ definedValues d)) ∧
    (∀ m ∈ canonicalMembers d, ((DynEnum.ofDefined d).run ops).containsMember m = true) ∧
    (∀ v, v ∉ definedValues d → ((DynEnum.ofDefined d).run ops).containsMember ⟨hiddenName v, v⟩ = false) := by
  have B := base_ofDefined hd
  have S := C17_defined_stable d hd ops
  have hplain := canonicalMembers_plain hd
  refine ⟨S.1, S.2.2.1, ?_, canonicalMembers_sublist d, canonicalMembers_values_nodup d, canonicalMembers_values d, hplain,
    ?_, ?_, ?_, ?_⟩
  · rw [B.run_eq ops, (B.iter_withExtras _).2, (iter_ofDefined hd).2]
  · intro p hp
    obtain ⟨m, hmc, hm, hv⟩ := lookup_ofDefined hd p hp
    refine ⟨m, hmc, ?_, hv⟩
    rw [B.run_eq ops]
    exact DynEnum.getItem_of_dget (withExtras_map_present _ hm)
  · intro v
    rw [B.run_eq ops, B.contains_withExtras, Bool.eq_iff_iff, ofDefined_known, decide_eq_true_iff]
  · intro m hm
    simp only [DynEnum.containsMember, hplain m hm, Bool.not_false]
  · intro v _
    show (!(hiddenMember v).isUnrecognized) = false
    rw [hiddenMember_unrecognized]; rfl

/-- The only name lookups a history can change are hidden-name lookups: if `E[n]` after a history differs from
`E[n]` on the fresh class, then it now returns an unrecognised member whose value is one of the unknown values seen,
and `n` (or `n.upper()`) starts with the hidden prefix.  (`E['_U_3']` raises `KeyError` on the fresh class and
resolves after `E(3, raise_on_unrecognized=False)`; nothing else moves.) -/
theorem C17_lookup_changes_only_hidden (d : List (Name × Int)) (hd : enumOk d = true) (ops : List EnumOp) (n : Name) :
    ((DynEnum.ofDefined d).run ops).getItem n = (DynEnum.ofDefined d).getItem n ∨
      ∃ m, ((DynEnum.ofDefined d).run ops).getItem n = .ok m ∧ m.isUnrecognized = true ∧ m.value ∉ definedValues d ∧
        (startsWith n unrecognizedPrefix = true ∨ startsWith (upperName n) unrecognizedPrefix = true) := by
  obtain ⟨hrun, hfresh⟩ := C17_reachable_states d hd ops
  rw [hrun]
  rcases getItem_withExtras (e0 := DynEnum.ofDefined d) (seenAfter (DynEnum.ofDefined d) [] ops) n with h | ⟨m, a, b, c, e⟩
  · exact Or.inl h
  · exact Or.inr ⟨m, a, b, hfresh _ c, e⟩

/-- **Mask round trip.**  For a mask class with offset `offset` over captured members `vals` whose values are
pairwise different and not below the offset, and any list `S` of those members (any order, repetitions allowed):
`to_bitmask(S)` succeeds and `to_values` of that mask is exactly the members of `S`, in enumeration order. -/
theorem C17_mask_roundtrip (offset : Int) (attrs : List (Name × Int)) (vals S : List EnumMember)
    (hoff : ∀ m ∈ vals, offset ≤ m.value) (hnd : (vals.map (·.value)).Nodup) (hS : ∀ m ∈ S, m ∈ vals) :
    ∃ mask, toBitmask offset attrs (S.map fun m => .val m.value) = .ok mask ∧
      toValues offset mask vals = .ok (vals.filter fun m => decide (m ∈ S)) :=
  ⟨_, mask_roundtrip offset attrs vals S hoff hnd hS⟩

/-- `to_string` of the mask of a set of captured members names exactly those members, in enumeration order.  (Like
`to_values` and `to_bitmask` it is a function of its argument alone: a caller that edits a list it got back from an
earlier call cannot change what a later call returns.) -/
theorem C17_mask_to_string (offset : Int) (attrs : List (Name × Int)) (vals S : List EnumMember)
    (hoff : ∀ m ∈ vals, offset ≤ m.value) (hnd : (vals.map (·.value)).Nodup) (hS : ∀ m ∈ S, m ∈ vals) :
    ∃ mask, toBitmask offset attrs (S.map fun m => .val m.value) = .ok mask ∧
      maskToString offset mask vals = .ok (joinCommaSpace ((vals.filter fun m => decide (m ∈ S)).map (·.str))) := by
  obtain ⟨h1, h2⟩ := mask_roundtrip offset attrs vals S hoff hnd hS
  exact ⟨_, h1, by simp only [maskToString, h2]⟩

/-- The same for the mask derived from a class body at any point of any history: `enum_bitmask` captures `list(E)`,
which is the canonical members whatever has been converted before, and their values are distinct by construction. -/
theorem C17_mask_roundtrip_enum (d : List (Name × Int)) (hd : enumOk d = true) (ops : List EnumOp) (offset : Int)
    (attrs : List (Name × Int)) (hoff : ∀ p ∈ d, offset ≤ p.2) (S : List EnumMember)
    (hS : ∀ m ∈ S, m ∈ canonicalMembers d) :
    ∃ vals mask, ((DynEnum.ofDefined d).run ops).iter = .ok vals ∧
      toBitmask offset attrs (S.map fun m => .val m.value) = .ok mask ∧
      toValues offset mask vals = .ok (vals.filter fun m => decide (m ∈ S)) := by
  refine ⟨canonicalMembers d, maskBitsOf offset S 0, (C17_defined_stable d hd ops).1, ?_⟩
  apply mask_roundtrip offset attrs _ S _ (canonicalMembers_values_nodup d) hS
  intro m hm
  exact hoff _ (canonicalMembers_mem hm)

/-- Every IntEnum subclass of the package (table regenerated from the working tree on each run) satisfies the
hypothesis of the theorems above, hence all of them. -/
theorem C17_package_enums (e : PyEnum) (he : e ∈ PyEnums.all) (ops : List EnumOp) (v : Int) :
    (∃ m, (((DynEnum.ofDefined e.defn).run ops).call v false).1 = .ok m ∧ m.value = v ∧
        (m.isUnrecognized = true ↔ v ∉ definedValues e.defn)) ∧
    (v ∉ definedValues e.defn →
        ((DynEnum.ofDefined e.defn).run ops).call v true = (.error .valueError, (DynEnum.ofDefined e.defn).run ops)) ∧
    ((DynEnum.ofDefined e.defn).run ops).iter = (DynEnum.ofDefined e.defn).iter ∧
    ((DynEnum.ofDefined e.defn).run ops).len = (DynEnum.ofDefined e.defn).len ∧
    (∀ p ∈ e.defn, ((DynEnum.ofDefined e.defn).run ops).getItem p.1 = (DynEnum.ofDefined e.defn).getItem p.1) := by
  have hd := PyEnums.all_ok e he
  have hs := C17_defined_stable e.defn hd ops
  refine ⟨C17_lenient_preserves _ hd ops v, C17_strict_refuses _ hd ops v, by rw [hs.1, hs.2.1], by rw [hs.2.2.1, hs.2.2.2.1], ?_⟩
  intro p hp
  obtain ⟨m, a, b, _⟩ := hs.2.2.2.2.1 p hp
  rw [a, b]

/-- ... and the members / iteration / length clause for every IntEnum subclass of the package, in every reachable
state; the facts `PyEnums.e<N>_members` (decided by the kernel on each regeneration) tie the member list the
translator computed from the interpreter's table (first name of every distinct value, in declaration order - what the
harness's oracle expects `list(E)` to show and `len(E)` to count) to `canonicalMembers`. -/
theorem C17_package_members (e : PyEnum) (he : e ∈ PyEnums.all) (ops : List EnumOp) :
    ((DynEnum.ofDefined e.defn).run ops).iter = .ok (canonicalMembers e.defn) ∧
    ((DynEnum.ofDefined e.defn).run ops).len = .ok (canonicalMembers e.defn).length ∧
    ((DynEnum.ofDefined e.defn).run ops).reversedIter = .ok (canonicalMembers e.defn).reverse ∧
    (∀ p ∈ e.defn, ∃ m ∈ canonicalMembers e.defn,
        ((DynEnum.ofDefined e.defn).run ops).getItem p.1 = .ok m ∧ m.value = p.2) ∧
    (∀ v, ((DynEnum.ofDefined e.defn).run ops).containsValue v = decide (v ∈ definedValues e.defn)) := by
  have h := C17_members_iteration_length e.defn (PyEnums.all_ok e he) ops
  exact ⟨h.1, h.2.1, h.2.2.1, h.2.2.2.2.2.2.2.1, h.2.2.2.2.2.2.2.2.1⟩

/-- The mask classes of the package: for any list of captured members, by member or by name (any case),
`to_bitmask` gives the same mask and `to_values` returns exactly those members. -/
theorem C17_package_masks (m : PyMask) (hm : m ∈ PyEnums.masks) (S : List EnumMember) (hS : ∀ x ∈ S, x ∈ m.enumValues) :
    ∃ mask, toBitmask m.offset m.attrs (S.map fun x => .val x.value) = .ok mask ∧
      toBitmask m.offset m.attrs (S.map fun x => .str x.name) = .ok mask ∧
      toValues m.offset mask m.enumValues = .ok (m.enumValues.filter fun x => decide (x ∈ S)) := by
  obtain ⟨hnd, hall⟩ := maskOk_spec (PyEnums.masks_ok m hm)
  obtain ⟨h1, h2⟩ := mask_roundtrip m.offset m.attrs m.enumValues S (fun x hx => (hall x hx).1) hnd hS
  refine ⟨_, h1, ?_, h2⟩
  rw [← h1]
  exact toBitmaskFrom_names m.offset m.attrs S (fun x hx => hall x (hS x hx)) 0

/-! Non-vacuity: a class body with an alias satisfies `enumOk`; the model run on a concrete history shows the
behaviour the theorems speak about (tests, not theorems). -/
def c17Body : List (Name × Int) := [([65], 0), ([66], 1), ([67], 1), ([68], 7)]   -- A = 0, B = 1, C = 1 (alias), D = 7

example : enumOk c17Body = true := by decide
#guard canonicalMembers c17Body == [⟨[65], 0⟩, ⟨[66], 1⟩, ⟨[68], 7⟩]
#guard enumOkIs (((DynEnum.ofDefined c17Body).run [.conv 3 false, .conv (-2) false, .conv 3 true]).call 3 false).1
  ⟨[95, 85, 95, 51], 3⟩                                                                              -- `_U_3`
#guard enumErrIs (((DynEnum.ofDefined c17Body).run [.conv 3 false]).call 3 true).1 .valueError
#guard enumOkIs ((DynEnum.ofDefined c17Body).run [.conv 3 false, .conv (-2) false]).iter (canonicalMembers c17Body)
#guard enumOkIs (((DynEnum.ofDefined c17Body).run [.conv 3 false]).getItem [95, 117, 95, 51]) ⟨[95, 85, 95, 51], 3⟩   -- E['_u_3']
#guard enumErrIs ((DynEnum.ofDefined c17Body).getItem [95, 85, 95, 51]) .keyError
#guard enumOkIs ((DynEnum.ofDefined c17Body).run [.conv 3 false, .conv (-2) false]).len 3               -- four names, three members
#guard enumOkIs ((DynEnum.ofDefined c17Body).run [.conv 3 false]).reversedIter [⟨[68], 7⟩, ⟨[66], 1⟩, ⟨[65], 0⟩]
#guard enumOkIs (((DynEnum.ofDefined c17Body).run [.conv 3 false]).getItem [67]) ⟨[66], 1⟩                   -- E['C'] is E.B
#guard ((DynEnum.ofDefined c17Body).run [.conv 3 false]).containsValue 1 && !((DynEnum.ofDefined c17Body).run [.conv 3 false]).containsValue 3
#guard !(DynEnum.ofDefined c17Body).containsValue 3
#guard enumOkIs (toBitmask (-1) [] [.val 7, .val 0]) 258
#guard enumOkIs (toValues (-1) 258 (canonicalMembers c17Body)) [⟨[65], 0⟩, ⟨[68], 7⟩]
#guard enumOkIs (maskToString (-1) 258 (canonicalMembers c17Body)) [65, 44, 32, 68]                    -- 'A, D'
#guard PyEnums.all.length > 30 && PyEnums.masks.length ≥ 1

end FeVerif
