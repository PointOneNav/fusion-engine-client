/-
C07 — the C++ framer dispatches exactly the valid messages, for any chunking and capacity.

Model: FeVerif/Model/CxxFramer.lean (literal transcription of fusion_engine_framer.cc: `onByte`, `resync`,
`onData`, `setBuffer`/`construct`, `reset`), tied to the compiled code by cxx/c07_harness.cc + tools/props/c07.py.
Specification: `(cfgCxx cap).run` — the shared left-to-right scan with the C++ header acceptance
(sync bytes, no uint32 overflow of 24 + payload, reserved = 0, 24 + payload ≤ capacity) and CRC-32 of bytes
[8, 24 + payload).
-/
import FeVerif.Proofs.CxxFramer
import FeVerif.Props.C04

namespace FeVerif

open Cxx

/-! ### Chunking independence -/

/-- `OnData(a ++ b)` is `OnData(a)` followed by `OnData(b)`: same final object (every field, including the
buffer contents), return values add up, callbacks concatenate.  For every framer state whatsoever. -/
theorem C07_onData_append (f : Framer) (a b : Bytes) :
    onData f (a ++ b) =
      ⟨(onData (onData f a).f b).f, (onData f a).ret + (onData (onData f a).f b).ret,
        (onData f a).cbs ++ (onData (onData f a).f b).cbs⟩ :=
  onData_append f a b

/-- Any two divisions of the same stream into `OnData` calls leave the same object behind, deliver the
same callbacks in the same order and return the same total. -/
theorem C07_chunking_independent (f : Framer) (parts₁ parts₂ : List Bytes)
    (h : parts₁.flatten = parts₂.flatten) :
    (onDataCalls f parts₁).1 = (onDataCalls f parts₂).1 ∧
    (onDataCalls f parts₁).2.1.sum = (onDataCalls f parts₂).2.1.sum ∧
    (onDataCalls f parts₁).2.2 = (onDataCalls f parts₂).2.2 := by
  obtain ⟨a1, a2, a3⟩ := onDataCalls_flatten parts₁ f
  obtain ⟨b1, b2, b3⟩ := onDataCalls_flatten parts₂ f
  rw [a1, a2, a3, b1, b2, b3, h]
  exact ⟨rfl, rfl, rfl⟩

/-! ### Construction -/

/-- The alignment arithmetic of `SetBuffer`: a framer that got a buffer has at least a header's worth of
capacity, its buffer starts at a 4-byte aligned address and lies inside the storage it was given
(`capacity` bytes at the caller's address, resp. the `capacity + 3` bytes allocated internally);
it is in the reset state and has touched nothing.  (Internal allocations: `operator new[]` returns
4-byte aligned storage.) -/
theorem C07_construct (user : Option Nat) (alloc capacity : Nat) (halloc : user = none → alloc % 4 = 0)
    (hb : (Framer.construct user alloc capacity).hasBuf = true) :
    let f := Framer.construct user alloc capacity
    HDR ≤ f.cap ∧ f.buf.length = f.cap ∧ f.addr % 4 = 0 ∧ f.state = .sync0 ∧ f.next = 0 ∧ f.hi = 0 ∧
    (match user with
      | some a => a ≤ f.addr ∧ f.addr + f.cap ≤ a + capacity
      | none => alloc ≤ f.addr ∧ f.addr + f.cap ≤ alloc + (capacity + 3)) := by
  have hc := hb
  rw [construct_eq, setBuffer_empty_hasBuf] at hc
  have h := setBuffer_spec Framer.empty user alloc _ halloc hc
  rw [← construct_eq] at h
  obtain ⟨⟨_, hcap24, hlen, _, hstate, hnext⟩, _, hhi, haligned, _, hinside⟩ := h
  cases user <;> exact ⟨hcap24, hlen, haligned, hstate, hnext, hhi, hinside⟩

/-- A buffer that is too small — counting the bytes a caller's buffer loses to alignment — leaves the
framer without a buffer, and such a framer ignores all data (as long as no `SetBuffer` gives it one). -/
theorem C07_no_buffer (user : Option Nat) (alloc capacity : Nat)
    (hb : (Framer.construct user alloc capacity).hasBuf = false) (ops : List Op) (hops : ∀ op ∈ ops, op.keepsBuffer) :
    runOps (Framer.construct user alloc capacity) ops = Framer.empty := by
  have hf : Framer.construct user alloc capacity = Framer.empty := by
    rw [construct_eq] at hb ⊢
    rcases Nat.lt_or_ge (capacity + if user.isNone then 3 else 0) (HDR + slackOf user) with hc | hc
    · exact setBuffer_refused _ _ _ _ hc
    · rw [(setBuffer_empty_hasBuf user alloc _).2 hc] at hb; cases hb
  rw [hf]
  unfold runOps
  induction ops with
  | nil => rfl
  | cons op ops ih =>
    rw [List.foldl_cons]
    have : applyOp Framer.empty op = Framer.empty := by
      cases op with
      | data d => rfl
      | reset => rfl
      | setBuffer u a c => exact (hops _ (List.mem_cons_self ..)).elim
    rw [this]; exact ih (fun op h => hops op (List.mem_cons_of_mem _ h))

/-- A caller buffer is accepted exactly when it still holds a header after alignment. -/
theorem C07_buffer_accepted_iff (a alloc capacity : Nat) :
    (Framer.construct (some a) alloc capacity).hasBuf = true ↔ HDR + (alignUp a - a) ≤ capacity :=
  setBuffer_empty_hasBuf (some a) alloc capacity

/-! ### Memory safety -/

/-- **Every buffer index the framer ever reads or writes is below `capacity_bytes_`** (`hi` is
1 + the highest index of `buffer_` accessed by `OnData`, `OnByte`, `Resync`, `memmove`, `CalculateCRC`, or handed
to a callback; counted from the last accepted `SetBuffer`, i.e. in the buffer now in use), `next_byte_index_` stays
inside the buffer, and the buffer keeps its size — in every reachable state: after construction with either kind of
buffer and any history of `OnData`, `Reset()` and `SetBuffer()` calls (either kind, any address, any capacity,
at any point of a message). -/
theorem C07_framer_safe (f : Framer) (h : Reachable f) :
    f.hi ≤ f.cap ∧ f.next ≤ f.cap ∧ f.buf.length = f.cap ∧ (f.hasBuf = true → HDR ≤ f.cap) := by
  obtain ⟨⟨_, hs⟩, _⟩ := reachable_inv h
  rcases hs with ⟨_, he⟩ | ⟨_, hr⟩
  · rw [he]
    exact ⟨Nat.le_refl _, Nat.le_refl _, rfl, fun h => by cases h⟩
  · have := hr.lt_cap
    exact ⟨hr.core.hi, by rw [hr.next]; omega, hr.core.len, fun _ => hr.core.cap24⟩

/-! ### Return value, alignment -/

/-- `OnData` returns the total size of the messages it dispatched during that call. -/
theorem C07_return_value (f : Framer) (h : Reachable f) (d : Bytes) :
    (onData f d).ret = sumLen (onData f d).cbs := by
  by_cases hb : f.hasBuf = true
  · obtain ⟨⟨p, hr⟩, _⟩ := reachable_rel h hb
    obtain ⟨_, r2, r3⟩ := onData_delivers hr d
    rw [r3, r2]; simp
  · unfold onData; rw [if_neg hb]; rfl

/-- The header handed to a callback is the start of the buffer (`cb = buf.take …` in `crcCheck`), and
that address is 4-byte aligned in every reachable state. -/
theorem C07_header_aligned (f : Framer) (h : Reachable f) (hb : f.hasBuf = true) : f.addr % 4 = 0 := by
  exact (reachable_rel h hb).2

/-! ### Refinement of the scan -/

/-- **The framer dispatches exactly the messages of the left-to-right scan.**  From the reset state
(after construction or `Reset()`), for any stream and any division of it into `OnData` calls, the
callbacks are — in order, each exactly once, with exactly the stream's bytes — the messages
`(cfgCxx capacity_bytes_).run stream 0` accepts; the return values of the calls add up to their total size. -/
theorem C07_refines_scan (f : Framer) (hf : Fresh f) (chunks : List Bytes) :
    (onDataCalls f chunks).2.2 =
      msgBytes chunks.flatten 0 ((cfgCxx f.cap).run chunks.flatten 0).msgs ∧
    (onDataCalls f chunks).2.1.sum =
      sumLen (msgBytes chunks.flatten 0 ((cfgCxx f.cap).run chunks.flatten 0).msgs) := by
  obtain ⟨_, a, b⟩ := onDataCalls_delivers chunks (Fresh.rel hf)
  simp only [List.nil_append, Nat.zero_add, settle_msgs f.cap chunks.flatten] at a b
  exact ⟨a, b⟩

/-- The same from any reachable state after a `Reset()`. -/
theorem C07_refines_scan_after_reset (f : Framer) (h : Reachable f) (hb : f.hasBuf = true) (chunks : List Bytes) :
    (onDataCalls f.reset chunks).2.2 =
      msgBytes chunks.flatten 0 ((cfgCxx f.cap).run chunks.flatten 0).msgs := by
  obtain ⟨⟨p, hr⟩, _⟩ := reachable_rel h hb
  exact (C07_refines_scan f.reset hr.core.fresh_reset chunks).1

/-- Freshly constructed framers are in the reset state. -/
theorem C07_construct_fresh (user : Option Nat) (alloc capacity : Nat) (halloc : user = none → alloc % 4 = 0)
    (hb : (Framer.construct user alloc capacity).hasBuf = true) : Fresh (Framer.construct user alloc capacity) := by
  rw [construct_eq] at hb ⊢
  exact setBuffer_fresh _ _ _ _ halloc ((setBuffer_empty_hasBuf ..).1 hb)

/-! ### Replacing the buffer (`SetBuffer` on a live object) -/

/-- A `SetBuffer` call whose capacity does not hold a header behind the alignment loss is refused and
leaves the object exactly as it was (buffer, pending bytes, state). -/
theorem C07_setBuffer_refused (f : Framer) (user : Option Nat) (alloc capacity : Nat)
    (hc : capacity < HDR + slackOf user) : f.setBuffer user alloc capacity = f :=
  setBuffer_refused f user alloc capacity hc

/-- An accepted `SetBuffer` call yields an object that does not depend on the previous one: nothing of the
old buffer, of the bytes pending in it, or of `state_` / `next_byte_index_` / `current_message_size_` survives. -/
theorem C07_setBuffer_discards (f g : Framer) (user : Option Nat) (alloc capacity : Nat)
    (hc : HDR + slackOf user ≤ capacity) :
    f.setBuffer user alloc capacity = g.setBuffer user alloc capacity :=
  (setBuffer_of_le f alloc hc).trans (setBuffer_of_le g alloc hc).symm

/-- ... and that object is in the reset state with `capacity_bytes_` = what is left of the storage behind the
first aligned address, an aligned buffer inside the storage given, nothing touched. -/
theorem C07_setBuffer_fresh (f : Framer) (user : Option Nat) (alloc capacity : Nat)
    (halloc : user = none → alloc % 4 = 0) (hc : HDR + slackOf user ≤ capacity) :
    let g := f.setBuffer user alloc capacity
    Fresh g ∧ g.cur = 0 ∧ g.hi = 0 ∧ g.addr % 4 = 0 ∧ g.cap = min capacity 0x7FFFFFFF - slackOf user ∧
    (match user with
      | some a => a ≤ g.addr ∧ g.addr + g.cap ≤ a + capacity
      | none => alloc ≤ g.addr ∧ g.addr + g.cap ≤ alloc + capacity) := by
  intro g
  obtain ⟨hfresh, hcur, hhi, haligned, hcap, hinside⟩ := setBuffer_spec f user alloc capacity halloc hc
  cases user <;> exact ⟨hfresh, hcur, hhi, haligned, hcap, hinside⟩

/-- **After an accepted `SetBuffer` — applied to any object whatsoever, in the middle of a header or of a
payload, from either kind of buffer to either kind, with a capacity below, at or above the number of bytes
pending — the framer dispatches exactly the messages the scan with the new capacity accepts in the bytes that
follow**: `SetBuffer` is one more segment boundary, with a change of capacity. -/
theorem C07_refines_scan_after_setBuffer (f : Framer) (user : Option Nat) (alloc capacity : Nat)
    (halloc : user = none → alloc % 4 = 0) (hc : HDR + slackOf user ≤ capacity) (chunks : List Bytes) :
    (onDataCalls (f.setBuffer user alloc capacity) chunks).2.2 =
      msgBytes chunks.flatten 0
        ((cfgCxx (min capacity 0x7FFFFFFF - slackOf user)).run chunks.flatten 0).msgs ∧
    (onDataCalls (f.setBuffer user alloc capacity) chunks).2.1.sum =
      sumLen (msgBytes chunks.flatten 0
        ((cfgCxx (min capacity 0x7FFFFFFF - slackOf user)).run chunks.flatten 0).msgs) := by
  have h := C07_refines_scan _ (setBuffer_fresh f user alloc capacity halloc hc) chunks
  rw [setBuffer_cap f user alloc capacity halloc hc] at h
  exact h

/-- **Whole histories.**  For an object constructed with either kind of buffer and any sequence of `OnData`,
`Reset()` and `SetBuffer()` calls, the callbacks are, in order, the messages of the specification `specCbs`:
the stream is cut at every `Reset()` and at every accepted `SetBuffer()` (a refused one cuts nothing), and each
segment is scanned on its own with the capacity in force — the bytes pending at a cut are discarded, the bytes
after it are framed from scratch. -/
theorem C07_history (user : Option Nat) (alloc capacity : Nat) (halloc : user = none → alloc % 4 = 0)
    (ops : List Op) (hok : ∀ op ∈ ops, op.ok) :
    opsCbs (Framer.construct user alloc capacity) ops =
      specCbs (capOf (Framer.construct user alloc capacity)) [] ops := by
  have := history ops _ [] (hinv_construct user alloc capacity halloc) hok
  rwa [segMsgs_nil, List.nil_append] at this

/-- What the scan accepts at the front of `buf`, spelled out. -/
theorem C07_accept_criteria (cap : Nat) (buf : Bytes) (n : Nat) :
    (cfgCxx cap).step buf = .emit n ↔
      HDR ≤ buf.length ∧ byteAt buf 0 = SYNC0 ∧ byteAt buf 1 = SYNC1 ∧ u16le buf 2 = 0 ∧
      HDR + u32le buf 16 ≤ cap ∧ HDR + u32le buf 16 < U32 ∧ n = HDR + u32le buf 16 ∧ n ≤ buf.length ∧
      (crc32 0#32 ((buf.take n).drop 8)).toNat = u32le buf 4 := by
  rw [Cfg.step_emit_iff]
  show HDR ≤ buf.length ∧ cxxHeaderOk cap (buf.take HDR) = true ∧ n = (cfgCxx cap).msgLen buf ∧ n ≤ buf.length ∧
    cxxCrcOk (buf.take n) = true ↔ _
  rw [cxxHeaderOk_iff, cfgCxx_msgLen]
  have hcrc : cxxCrcOk (buf.take (HDR + u32le buf 16)) = true ↔
      (crc32 0#32 ((buf.take (HDR + u32le buf 16)).drop 8)).toNat = u32le buf 4 := by
    rw [cxxCrcOk_take]; unfold cxxCrcOk; exact decide_eq_true_iff
  constructor
  · rintro ⟨h1, ⟨a, b, c, d, e⟩, rfl, h4, h5⟩
    exact ⟨h1, a, b, d, e, c, rfl, h4, hcrc.1 h5⟩
  · rintro ⟨h1, a, b, d, e, c, rfl, h8, h9⟩
    exact ⟨h1, ⟨a, b, c, d, e⟩, rfl, h8, hcrc.2 h9⟩

/-! ### Same messages as the Python decoder -/

/-- With a capacity up to 24 + 2^24, the C++ framer's scan and the scan of the Python decoder configured with
`max_payload_len_bytes = capacity − 24` are the same function: same verdict on every window, hence the same
messages on every stream.  (Above that capacity the two differ by design of the sources: the Python header
rejects any payload larger than 2^24 in `validate_crc`, the C++ framer has no such limit.) -/
theorem C07_same_as_python (cap : Nat) (h24 : HDR ≤ cap) (hmax : cap ≤ HDR + MAX_EXPECTED) (buf : Bytes) (off : Nat) :
    (cfgCxx cap).run buf off = (cfgPy (cap - HDR)).run buf off := by
  apply Cfg.run_congr
  intro w
  have hpl := u32le_lt w 16
  -- the header checks agree (no payload that fits the capacity overflows 32 bits); where they pass, the payload is
  -- within the Python limit, so the body checks agree
  have hhdr : cxxHeaderOk cap (w.take HDR) = pyHeaderOk (cap - HDR) (w.take HDR) := by
    rw [Bool.eq_iff_iff, cxxHeaderOk_iff, pyHeaderOk_take]
    simp only [Bool.and_eq_true, decide_eq_true_eq]
    unfold HDR MAX_EXPECTED U32 at *; omega
  rw [cfgCxx_step, cfgPy_step, hhdr]
  cases hok : pyHeaderOk (cap - HDR) (w.take HDR) with
  | false => rfl
  | true =>
    rw [pyHeaderOk_take] at hok
    simp only [Bool.and_eq_true, decide_eq_true_eq] at hok
    have hcrc : cxxCrcOk w = pyCrcOk w := by
      unfold cxxCrcOk pyCrcOk
      rw [decide_eq_true (show u32le w 16 ≤ MAX_EXPECTED by omega), Bool.true_and]
    rw [hcrc]

/-- Hence the framer's callbacks are exactly what the Python decoder model returns on the same stream. -/
theorem C07_framer_eq_python (f : Framer) (hf : Fresh f) (hmax : f.cap ≤ HDR + MAX_EXPECTED) (chunks : List Bytes) :
    (onDataCalls f chunks).2.2 =
      msgBytes chunks.flatten 0 (pyFeed (f.cap - HDR) PyDec.init [chunks.flatten]).1 := by
  rw [(C07_refines_scan f hf chunks).1, C07_same_as_python f.cap hf.2.1 hmax, C04_decoder_refines_scan]
  simp

/-! ### Non-vacuity (executable checks of the model; tests, not theorems) -/

def c07Msg : Bytes :=
  [0x2E, 0x31, 0, 0, 0xF7, 0x1F, 0xA4, 0xC3, 2, 0, 0x10, 0x27, 0, 0, 0, 0, 0, 0, 0, 0, 0, 0, 0, 0]

-- a caller buffer of 27 bytes at an odd address: capacity_bytes_ = 24, junk + duplicated sync + message split over calls
#guard (Framer.construct (some 4097) 0 27).cap == 24
#guard (onDataCalls (Framer.construct (some 4097) 0 27) [[1, 0x2E, 0x2E] ++ c07Msg.take 5, c07Msg.drop 5, [9]]).2.2 == [c07Msg]
#guard (onDataCalls (Framer.construct (some 4097) 0 27) [[1, 0x2E, 0x2E] ++ c07Msg.take 5, c07Msg.drop 5, [9]]).2.1 == [0, 24, 0]
-- 24..26 bytes at an odd address: no buffer (the defect fixed by /repo commit c9bc15e)
#guard (Framer.construct (some 4097) 0 26).hasBuf == false
-- a rejected candidate containing 25 duplicated sync bytes before a real message (the defect fixed by 51c058c)
#guard (onData (Framer.construct none 4096 64) ([0x2E, 0x31] ++ List.replicate 22 1 ++ List.replicate 25 0x2E ++ c07Msg.drop 1)).cbs == [c07Msg]

-- SetBuffer in the middle of a message (20 bytes pending): the pending bytes are discarded, the new capacity applies,
-- the rest of the old message is skipped and the next message is framed; a refused SetBuffer keeps the message going
#guard (opsCbs (Framer.construct (some 4096) 0 1024) [.data (c07Msg.take 20), .setBuffer (some 8193) 0 27, .data (c07Msg.drop 20 ++ c07Msg)]) == [c07Msg]
#guard (runOps (Framer.construct (some 4096) 0 1024) [.data (c07Msg.take 20), .setBuffer (some 8193) 0 27]).cap == 24
#guard (runOps (Framer.construct (some 4096) 0 1024) [.data (c07Msg.take 20), .setBuffer (some 8193) 0 27]).next == 0
#guard (opsCbs (Framer.construct (some 4096) 0 1024) [.data (c07Msg.take 20), .setBuffer (some 8193) 0 26, .data (c07Msg.drop 20 ++ c07Msg)]) == [c07Msg, c07Msg]
#guard (opsCbs (Framer.construct (some 4096) 0 1024) [.data (c07Msg.take 20), .setBuffer none 8192 24, .data (c07Msg.drop 20 ++ c07Msg)]) == [c07Msg]
-- an object without a buffer gets one later
#guard (opsCbs (Framer.construct (some 4097) 0 26) [.data c07Msg, .setBuffer none 8192 24, .data c07Msg]) == [c07Msg]
#guard specCbs (capOf (Framer.construct (some 4096) 0 1024)) [] [.data (c07Msg.take 20), .setBuffer (some 8193) 0 27, .data (c07Msg.drop 20 ++ c07Msg)] == [c07Msg]

end FeVerif
