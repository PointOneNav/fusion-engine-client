/-
C11 — the log reader is a correct cursor over the filtered list after any history.

Model: `Reader.step`/`Reader.run` (FeVerif/Model/Reader.lean: `next_index_elem`, the filtered index,
`_prev_entry_offset_bytes`, the repositioning arithmetic of `filter_in_place`); specification:
`Reader.absStep`/`absRun` (FeVerif/Spec/Reader.lean): the list selected by the filters in force and the
offset after which reading continues — `read_next` returns the first selected entry after that offset,
or stops exactly when there is none.  Tied to mixed_log_reader.py by tools/props/c11.py.
-/
import FeVerif.Proofs.Cursor
import FeVerif.Proofs.Reader

namespace FeVerif
open Reader

/-- **Any history.** From related states, any sequence of operations (any length) produces the same
answers from the reader model and from the abstract cursor, and the final states are related. -/
theorem C11_run_sim (ops : List Op) (s : Cur) (a : Abs) (r : Rel s a) :
    (run s ops).2 = (absRun a ops).2 ∧ Rel (run s ops).1 (absRun a ops).1 := by
  induction ops generalizing s a with
  | nil => exact ⟨rfl, r⟩
  | cons op ops ih =>
    obtain ⟨h1, h2⟩ := step_sim s a r op
    obtain ⟨h3, h4⟩ := ih _ _ h2
    unfold run absRun
    exact ⟨by rw [h1, h3], h4⟩

/-- The index of a well-formed log (messages in increasing, non-overlapping file order) is strictly
sorted by offset. -/
theorem indexOf_sorted (log : List Msg) (hwf : LogWF log) : Sorted (indexOf log) := by
  have h : log.Pairwise fun a b => a.offset < b.offset :=
    hwf.1.imp_of_mem fun ha _ hab => Nat.lt_of_lt_of_le (by have := hwf.2 _ ha; omega) hab
  rw [← zipOrd_map_snd log 0, List.pairwise_map] at h
  rw [Sorted, indexOf_eq, List.pairwise_map]
  exact h

/-- **The reader is a correct cursor.** For every log and every sequence of read, filter (types, time
range, index slice, remove-untimed), clear, rewind and seek operations, every answer of the reader —
the message returned by each `read_next`, each end of iteration, each refusal — is the answer of the
abstract cursor: the next message returned is the first message after the last one returned (or sought)
among those selected by the filters then in force, and iteration ends exactly when none remains. -/
theorem C11_cursor_refines (log : List Msg) (hwf : LogWF log) (ops : List Op) :
    (run (Cur.init (indexOf log)) ops).2 = (absRun ⟨indexOf log, indexOf log, none⟩ ops).2 :=
  (C11_run_sim ops _ _ (rel_init (indexOf_sorted log hwf))).1

/-- What `read_next` answers in any reachable state, spelled out on the abstract cursor: the first
selected entry whose offset is after the current position, or `stop` iff there is none. -/
theorem C11_read_next_meaning (a : Abs) :
    (absStep a .readNext).2 = match a.sel.find? (after a.pos) with | none => .stop | some e => .msg e.ordinal := by
  unfold absStep
  cases a.sel.find? (after a.pos) <;> rfl

/-- `filter_in_place`'s repositioning arithmetic: the new `next_index_elem` is the number of selected
entries at or before the last consumed offset (for a sorted selection). -/
theorem C11_reposition_correct (cur : List Ent) (pos : Option Nat) :
    reposition cur pos = cur.findIdx (after pos) := reposition_eq cur pos

theorem stride_getElem_opt (k : Nat) (hk : 0 < k) (l : List Ent) (n : Nat) : (stride k l)[n]? = l[n * k]? := by
  fun_induction stride k l generalizing n with
  | case1 => simp
  | case2 x xs ih =>
    cases n with
    | zero => simp
    | succ n =>
      rw [List.getElem?_cons_succ, ih, List.getElem?_drop]
      have : (n + 1) * k = (k - 1 + n * k) + 1 := by rw [Nat.succ_mul]; omega
      rw [this, List.getElem?_cons_succ]

/-- The selection made by `filter_in_place(slice(i, j, k))` (`Op.filterStride`, `k ≥ 1`) is Python's `index[i:j:k]`: its
`n`-th entry is entry `i + n·k` of the entries before `j`, and it ends where those end. -/
theorem C11_stride_meaning (i j k : Nat) (hk : 0 < k) (sel : List Ent) (n : Nat) :
    (stride k ((sel.take j).drop i))[n]? = (sel.take j)[i + n * k]? := by
  rw [stride_getElem_opt k hk, List.getElem?_drop]

/-- "at or after": ordering of cursor positions (`none` = before the first message). -/
def posLe : Option Nat → Option Nat → Prop
  | none, _ => True
  | some _, none => False
  | some p, some q => p ≤ q

theorem posLe_refl (p : Option Nat) : posLe p p := by cases p <;> simp [posLe]

theorem posLe_trans {p q r : Option Nat} (h1 : posLe p q) (h2 : posLe q r) : posLe p r :=
  match p, q, r, h1, h2 with
  | none, _, _, _, _ => trivial
  | some _, none, _, h, _ => h.elim
  | some _, some _, none, _, h => h.elim
  | some _, some _, some _, h1, h2 => Nat.le_trans h1 h2

/-- operations that may move the cursor backwards on purpose -/
def Reader.Op.repositions : Op → Bool
  | .rewind | .seek _ _ | .seekEof => true
  | _ => false

/-- A `read_next` that returns a message returns one strictly after the position, and moves the position
onto it; every other non-repositioning operation (all filters in both forms, `clear`) leaves the
position alone. -/
theorem C11_step_forward (a : Abs) (op : Op) (h : op.repositions = false) :
    posLe a.pos (absStep a op).1.pos ∧
      (∀ o, (absStep a op).2 = .msg o → ∃ e ∈ a.sel, e.ordinal = o ∧ after a.pos e = true ∧
        (absStep a op).1.pos = some e.offset) := by
  cases op with
  | readNext =>
    unfold absStep
    cases hf : a.sel.find? (after a.pos) with
    | none => exact ⟨posLe_refl _, by intro o ho; cases ho⟩
    | some e =>
      have hmem := List.mem_of_find?_eq_some hf
      have hp := List.find?_some hf
      refine ⟨?_, ?_⟩
      · cases hpos : a.pos with
        | none => simp [posLe]
        | some p =>
          rw [hpos] at hp
          simp only [after, decide_eq_true_eq] at hp
          simp only [posLe]; omega
      · intro o ho
        simp only [Res.msg.injEq] at ho
        exact ⟨e, hmem, ho, hp, rfl⟩
  | rewind | seek | seekEof => cases h
  | filterTime r =>
    simp only [absStep]
    cases sliceByRange a.sel (t0Of a.orig) r <;> exact ⟨posLe_refl _, fun o ho => by cases ho⟩
  -- the other filters and `clear` answer `done` and leave the position alone
  | _ => exact ⟨posLe_refl _, fun o ho => by cases ho⟩

/-- **Forward only.** Over any history without `rewind` / `seek`, whatever filters are applied, replaced
or cleared in between, the position never moves back.  With `C11_step_forward` (each returned message
lies strictly after the position and becomes it): no message is returned twice and messages come out in
increasing file order, until the caller rewinds or seeks. -/
theorem C11_forward_only (ops : List Op) (hops : ∀ op ∈ ops, op.repositions = false) (a : Abs) :
    posLe a.pos (absRun a ops).1.pos := by
  induction ops generalizing a with
  | nil => exact posLe_refl _
  | cons op ops ih =>
    unfold absRun
    exact posLe_trans (C11_step_forward a op (hops op (List.mem_cons_self ..))).1
      (ih (fun o ho => hops o (List.mem_cons_of_mem _ ho)) _)

-- read one, filter to the later type, clear, read: continues after message 0
#guard (run (Cur.init (indexOf [⟨0, 30, 1, 0, none⟩, ⟨30, 30, 2, 0, some 5000000000⟩, ⟨60, 30, 1, 0, none⟩]))
    [.readNext, .filterTypes [2], .clear, .readNext]).2 == [.msg 0, .done, .done, .msg 1]

end FeVerif
