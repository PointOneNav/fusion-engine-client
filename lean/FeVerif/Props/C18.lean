/-
C18 — extraction of FusionEngine content is byte-exact, indexed and idempotent.

Model: FeVerif/Model/Extract.lean, tied to utils/log.py (`extract_fusion_engine_log`) and the p1_extract
application by tools/props/c18.py.  The sequential scan is `cfgFile.runFile`.
-/
import FeVerif.Model.Extract
import FeVerif.Proofs.Frame
import FeVerif.Proofs.Header

namespace FeVerif
open Cfg Extract

/-- **The reader returns the indexed messages.** Iterating the index of the scan with the reader's
per-entry re-validation (seek, header, size limit, payload, CRC) returns every entry, with exactly
the bytes `file[offset, offset+length)` — the `messages` the extraction writes. -/
theorem C18_reader_returns_indexed_messages (input : Bytes) :
    readIndexed input (cfgFile.runFile input 0) = messages input := by
  unfold readIndexed messages
  have h : ∀ p ∈ cfgFile.runFile input 0, readEntry input p.1 = some (slice input p.1 p.2) := by
    intro p hp
    obtain ⟨h1, _, h3, h4, h5⟩ := cfgFile_stepFile_emit.1 (runFile_mem_valid input 0 p hp)
    rw [Nat.sub_zero] at h1 h3 h4 h5
    -- the size limit the reader checks first is part of the CRC check the scan has made
    have hmax : u32le (input.drop p.1) 16 ≤ MAX_EXPECTED := by
      simp only [pyCrcOk, Bool.and_eq_true, decide_eq_true_eq] at h5
      exact h5.1
    rw [readEntry, if_neg (by omega), if_neg (by omega), if_neg (by omega), pyCrcOk_take, if_pos h5, ← h3]
    rfl
  generalize cfgFile.runFile input 0 = l at h
  induction l with
  | nil => rfl
  | cons a r ih =>
    rw [List.filterMap_cons, h a List.mem_cons_self, List.map_cons,
      ih fun p hp => h p (List.mem_cons_of_mem _ hp)]

/-- A byte string that the scan accepts whole. -/
def Whole (m : Bytes) : Prop := cfgFile.stepFile m = .emit m.length

/-- **Scan of a concatenation of whole messages** = one entry per message at the running offset. -/
theorem C18_scan_of_concat (ms : List Bytes) (hw : ∀ m ∈ ms, Whole m) (off : Nat) :
    cfgFile.runFile ms.flatten off = builderOffsets ms off := by
  induction ms generalizing off with
  | nil =>
    exact runFile_of_short (buf := []) _ cfgFile.hdrLen_pos
  | cons m rest ih =>
    have hm : cfgFile.step m = .emit m.length := stepFile_emit_iff.1 (hw m (by simp))
    have hstep : cfgFile.stepFile (m ++ rest.flatten) = .emit m.length := by
      rw [stepFile_emit_iff, step_append_of_ne_stop _ (by simp [hm]), hm]
    rw [List.flatten_cons, runFile_emit hstep, List.drop_left', builderOffsets, ih (fun x hx => hw x (by simp [hx]))]
    rfl

/-- Every extracted message is accepted whole by the scan. -/
theorem messages_whole (input : Bytes) : ∀ m ∈ messages input, Whole m := by
  intro m hm
  unfold messages at hm
  obtain ⟨p, hp, rfl⟩ := List.mem_map.1 hm
  have hv := runFile_mem_valid (c := cfgFile) input 0 p hp
  rw [Nat.sub_zero] at hv
  unfold Whole slice
  rw [List.length_take, Nat.min_eq_left (stepFile_emit_pos hv).2]
  exact (stepFile_emit_take _ _ _).2 ⟨hv, Nat.le_refl _⟩

/-- **The output's fresh index is the index the builder wrote**: scanning the output afresh finds
exactly the extracted messages, at the offsets recorded while writing, with their lengths. -/
theorem C18_extract_index_eq_fresh (input : Bytes) :
    cfgFile.runFile (messages input).flatten 0 = builderOffsets (messages input) 0 :=
  C18_scan_of_concat _ (messages_whole input) 0

theorem slices_of_builderOffsets (ms : List Bytes) (pre : Bytes) :
    (builderOffsets ms pre.length).map (fun p => slice (pre ++ ms.flatten) p.1 p.2) = ms := by
  induction ms generalizing pre with
  | nil => rfl
  | cons m rest ih =>
    simp only [builderOffsets, List.map_cons, List.flatten_cons]
    congr 1
    · unfold slice
      rw [List.drop_left', List.take_left']; rfl; rfl
    · have := ih (pre ++ m)
      simp only [List.length_append, List.append_assoc] at this
      exact this

/-- **Output = concatenation; extraction is idempotent.** Extracting the output again gives the same
messages, hence byte for byte the same output, and the same count. -/
theorem C18_extract_idempotent (input : Bytes) :
    messages (messages input).flatten = messages input := by
  unfold messages
  have h := C18_extract_index_eq_fresh input
  unfold messages at h
  rw [h]
  have := slices_of_builderOffsets ((cfgFile.runFile input 0).map fun p => slice input p.1 p.2) []
  simpa using this

theorem C18_extract_idempotent' (input : Bytes) (out : Bytes) (n : Nat) (h : extract input = (some out, n)) :
    extract out = (some out, n) := by
  unfold extract at h ⊢
  obtain ⟨hne, h⟩ := of_ite_eq h fun e => nomatch (Prod.mk.inj e).1
  cases h
  rw [C18_extract_idempotent, if_neg hne]

/-- The reported count is the number of messages of the scan; no message ⇒ no output file. -/
theorem C18_extract_count (input : Bytes) :
    (extract input).2 = (cfgFile.runFile input 0).length ∧
    ((cfgFile.runFile input 0) = [] ↔ (extract input).1 = none) := by
  unfold extract messages
  cases h : cfgFile.runFile input 0 with
  | nil => simp
  | cons a r => simp

/-- Output bytes, spelled out: the concatenation, in order, of the raw bytes of the accepted messages. -/
theorem C18_extract_bytes (input out : Bytes) (n : Nat) (h : extract input = (some out, n)) :
    out = ((cfgFile.runFile input 0).map fun p => slice input p.1 p.2).flatten := by
  unfold extract at h
  cases (of_ite_eq h fun e => nomatch (Prod.mk.inj e).1).2
  rfl

end FeVerif
