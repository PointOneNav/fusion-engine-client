/-
C16 — numeric array conversion faithfully mirrors message fields.

`Gen.allTables` is the table extracted from the `to_numpy` classmethods on every run
(tools/c16_numpy_extract.py → FeVerif/Generated/Numpy.lean); `toNumpy` / `genericToNumpy` / `removeNan`
(FeVerif/Model/Numpy.lean) are the models of `Class.to_numpy`, `MessagePayload._message_to_numpy` and the NaN-time
removal of `MessageData.to_numpy`; all three are tied to the Python code by tools/props/c16.py.
-/
import FeVerif.Proofs.Numpy
import FeVerif.Generated.Numpy

namespace FeVerif
open FeVerif.Numpy

/-! ## 1. The extracted tables fill every same-named key from the same-named field -/

def detailsName : Nat := 0x64657461696c73        -- "details"

/-- `k` is a field of the class, or of the `MeasurementDetails` object the class embeds -/
def isFieldKey (md t : ClassTable) (k : Nat) : Bool :=
  t.fields.contains k || (t.embedsDetails && md.fields.contains k)

/-- the entry reads attribute `key` of the message, or attribute `key` of `m.details` -/
def readsOwnName (t : ClassTable) (e : Entry) : Bool :=
  e.path == [e.key] || (t.embedsDetails && e.path == [detailsName, e.key])

def sameNameOk (md t : ClassTable) : Bool :=
  t.entries.all fun e => !isFieldKey md t e.key || readsOwnName t e

/-- For every class defining `to_numpy` and every dictionary entry whose key is the name of a field of the class
(or of its embedded measurement details): the value is computed from exactly that attribute (`m.key`, or
`m.details.key`).  This is what a copy-paste slip "key `a` filled from field `b`" breaks; it is decided over the
table regenerated from the sources on every run. -/
theorem C16_same_name_same_field :
    ∀ t ∈ Gen.allTables, ∀ e ∈ t.entries, isFieldKey Gen.MeasurementDetails t e.key = true →
      e.path = [e.key] ∨ (t.embedsDetails = true ∧ e.path = [detailsName, e.key]) := by
  have h : Gen.allTables.all (sameNameOk Gen.MeasurementDetails) = true := by decide +kernel
  intro t ht e he hk
  simpa only [hk, Bool.not_true, Bool.false_or, readsOwnName, Bool.or_eq_true, Bool.and_eq_true, beq_iff_eq]
    using List.all_eq_true.1 (List.all_eq_true.1 h t ht) e he

/-- the form stated in the design: the last path component is the key -/
theorem C16_same_name_path_last :
    ∀ t ∈ Gen.allTables, ∀ e ∈ t.entries, isFieldKey Gen.MeasurementDetails t e.key = true →
      e.path.getLast? = some e.key := by
  intro t ht e he hk
  rcases C16_same_name_same_field t ht e he hk with h | ⟨_, h⟩ <;> rw [h] <;> rfl

/-- The outputs a class declares time-independent (`__metadata__['not_time_dependent']`) are exactly the entries of
the form "first message's value", in every extracted table. -/
theorem C16_first_iff_declared :
    ∀ t ∈ Gen.allTables, ∀ e ∈ t.entries,
      (e.kind = .first .nanScalar ∨ ∃ n, e.kind = .first (.nanVec n)) ↔ e.key ∈ t.notTimeDependent := by
  have h : Gen.allTables.all (fun t => t.entries.all fun e =>
      (match e.kind with | .first _ => true | _ => false) == t.notTimeDependent.contains e.key) = true := by decide +kernel
  intro t ht e he
  rw [← List.contains_iff_mem, ← beq_iff_eq.1 (List.all_eq_true.1 (List.all_eq_true.1 h t ht) e he)]
  cases e.kind with
  | first d => cases d <;> simp
  | _ => simp

/-- Only the class with the documented leading-UNKNOWN trimming rebinds its input list before building the
dictionary (every other class converts exactly the list it is given). -/
theorem C16_prelude_none_except_calibration :
    ∀ t ∈ Gen.allTables, t.prelude = .none ∨ t.name = 0x43616c6962726174696f6e537461747573 := by
  decide +kernel

/-! ## 2. Position `i` of every time-dependent array is the field of message `i` -/

/-- the numeric content of a field as the property wants to see it in an array: enumerations / ints / bools are
their integer, floats are themselves, a timestamp is its seconds (same binary64: no loss of the fraction) -/
def Val.asNumber : Val → Val
  | .time b => .s (.flt b)
  | v => v

/-- `ELEM` and `dtype=` never change a value (except `dtype=bool`, which maps non-zero to 1): whatever one message
contributes to an array *is* the field's value. -/
theorem C16_conversion_preserves_value (path : Path) (elem : Elem) (d : Dtype) (m : Msg) (w : Val)
    (hd : d ≠ .bool) (h : msgElem path elem d m = some w) :
    ∃ v, m.get path = some v ∧ (elem = .id → w = v) ∧ (elem ≠ .id → w = Val.asNumber v) := by
  obtain ⟨v, u, hg, hu, hc⟩ := msgElem_eq_some h
  cases castVal_eq_some hd hc
  refine ⟨v, hg, ?_⟩
  revert hu
  fun_cases elemConv elem v <;> rintro ⟨⟩ <;> simp [Val.asNumber]

/-- `np.array([f(m) for m in messages])[.T]` for any per-message expression `f`: whenever an array is produced at all, it has exactly one
entry per message along its time axis (the last axis when transposed, the first otherwise) and entry `i` is what
message `i` contributes.  Unbounded in the number of messages. -/
theorem C16_positionwise_mapped (f : Msg → Option Val) (tr : Bool) (msgs : List Msg)
    (h : evalMapped f tr msgs ≠ .bad) :
    (evalMapped f tr msgs).WF ∧
    (evalMapped f tr msgs).timeLen tr = some msgs.length ∧
    ∀ i, (evalMapped f tr msgs).atTime tr i = (msgs[i]?).bind (f) ∧
      (i < msgs.length → ((msgs[i]?).bind (f)).isSome) := by
  unfold evalMapped at h ⊢
  cases ha : allSome (msgs.map f) with
  | none => simp [ha] at h
  | some vals =>
    simp only [ha] at h ⊢
    obtain ⟨hlen, hget⟩ := getElem?_of_map_eq_map_some (allSome_eq_some ha)
    obtain ⟨w, l, g⟩ := stack_T_spec vals tr h
    refine ⟨w, hlen ▸ l, fun i => ⟨(g i).trans (hget i), fun hi => ?_⟩⟩
    rw [← hget i, List.getElem?_eq_getElem (hlen ▸ hi)]; rfl

/-- the stereotyped form `np.array([ELEM for m in messages], dtype=D)[.T]` -/
theorem C16_positionwise (path : Path) (elem : Elem) (d : Dtype) (tr : Bool) (msgs : List Msg)
    (h : evalPerMsg path elem d tr msgs ≠ .bad) :
    (evalPerMsg path elem d tr msgs).WF ∧
    (evalPerMsg path elem d tr msgs).timeLen tr = some msgs.length ∧
    ∀ i, (evalPerMsg path elem d tr msgs).atTime tr i = (msgs[i]?).bind (msgElem path elem d) ∧
      (i < msgs.length → ((msgs[i]?).bind (msgElem path elem d)).isSome) :=
  C16_positionwise_mapped (msgElem path elem d) tr msgs h

/-- `MeasurementDetails.to_numpy`'s `p1_time` (also reached through every class that embeds measurement details):
one entry per message; entry `i` is the field `p1_time` of message `i` unless that is NaN and the message's
time-source flag equals `v` (P1_TIME), in which case it is the message's `measurement_time`.  This is the documented
deviation from the property reported as `C16/MeasurementDetails/p1_time-nan-filled-from-measurement_time`. -/
theorem C16_p1_fill_partial (e : Entry) (fb cond : Path) (v : Int) (msgs : List Msg)
    (hk : e.kind = .fillNaN fb cond v) (h : evalEntry e msgs ≠ .bad) :
    (evalEntry e msgs).timeLen false = some msgs.length ∧
    ∀ i (hi : i < msgs.length), ∃ b c s,
      ((msgs[i]).get e.path = some (.time b) ∨ (msgs[i]).get e.path = some (.s (.flt b))) ∧
      msgElem fb .float .none msgs[i] = some (.s (.flt c)) ∧ msgElem cond .int .int msgs[i] = some (.s (.int s)) ∧
      (evalEntry e msgs).atTime false i = some (.s (.flt (if s = v ∧ isNanBits b = true then c else b))) := by
  have ev : evalEntry e msgs = evalMapped (msgFill e.path fb cond v) false msgs := by simp [evalEntry, hk]
  rw [ev] at h ⊢
  obtain ⟨_, l, g⟩ := C16_positionwise_mapped _ false msgs h
  refine ⟨l, fun i hi => ?_⟩
  have hb := getElem?_bind_of_lt (msgFill e.path fb cond v) hi
  obtain ⟨w, hw⟩ := Option.isSome_iff_exists.1 (hb ▸ (g i).2 hi)
  rw [(g i).1, hb, hw]
  unfold msgFill at hw
  split at hw
  · rename_i b c s h1 h2 h3
    cases hw
    refine ⟨b, c, s, ?_, h2, h3, rfl⟩
    obtain ⟨u, hu, -, hn⟩ := C16_conversion_preserves_value _ _ _ _ _ (by decide) h1
    rw [hu]
    -- a float is the number of a timestamp or of itself
    cases u <;> cases hn (by decide)
    · exact Or.inr rfl
    · exact Or.inl rfl
  · cases hw

/-- "First message's value" entries hold the field of message 0 whatever follows it. -/
theorem C16_time_independent_first (e : Entry) (dflt : Default) (m : Msg) (ms : List Msg) (v : Val)
    (hk : e.kind = .first dflt) (hv : m.get e.path = some v) :
    evalEntry e (m :: ms) = ofVal v := by
  simp [evalEntry, hk, hv]

/-- The dictionary returned for a class holds, under key `k`, the evaluation of the last table entry with that
key on the list the class was given (dictionary semantics of `{…}`, `result[k] = …`, `result.update(…)`). -/
theorem C16_key_holds_last_entry (t : ClassTable) (hp : t.prelude = .none) (msgs : List Msg) (k : Nat) :
    ∃ d, toNumpy t msgs = some d ∧
      dictGet d k = (lastEntry t.entries k).map (fun e => evalEntry e msgs) := by
  refine ⟨buildDict t.entries msgs [], by simp [toNumpy, hp, applyPrelude], ?_⟩
  rw [dictGet_buildDict]
  cases lastEntry t.entries k <;> rfl

/-- The property for a whole class: for every class without an input-rebinding prelude and every key whose (last)
entry is of the array form and yields an array, that array has one entry per message and position `i` holds the
contribution of message `i`, read from the entry's field path. Together with `C16_same_name_same_field` (path = the
key's own field) and `C16_conversion_preserves_value` this is the statement of C16 for same-named keys. -/
theorem C16_class_positionwise (t : ClassTable) (hp : t.prelude = .none) (msgs : List Msg) (k : Nat) (e : Entry)
    (elem : Elem) (d : Dtype) (tr : Bool)
    (he : lastEntry t.entries k = some e) (hk : e.kind = .perMsg elem d tr) :
    ∃ dict a, toNumpy t msgs = some dict ∧ dictGet dict k = some a ∧
      (a ≠ .bad → a.WF ∧ a.timeLen tr = some msgs.length ∧
        ∀ i, i < msgs.length → ∃ w, msgElem e.path elem d msgs[i]! = some w ∧ a.atTime tr i = some w) := by
  obtain ⟨dict, h1, h2⟩ := C16_key_holds_last_entry t hp msgs k
  rw [he] at h2
  refine ⟨dict, evalEntry e msgs, h1, h2, ?_⟩
  have ev : evalEntry e msgs = evalPerMsg e.path elem d tr msgs := by simp [evalEntry, hk]
  rw [ev]
  intro hb
  obtain ⟨w, l, g⟩ := C16_positionwise e.path elem d tr msgs hb
  refine ⟨w, l, fun i hi => ?_⟩
  have hb := getElem?_bind_of_lt (msgElem e.path elem d) hi
  obtain ⟨x, hx⟩ := Option.isSome_iff_exists.1 (hb ▸ (g i).2 hi)
  exact ⟨x, by rwa [getElem!_pos msgs i hi], (g i).1.trans (hb.trans hx)⟩

/-! ## 3. CalibrationStatus: the leading-UNKNOWN trimming -/

/-- What the trimming prelude does: it returns a suffix of the input (so array position `i` is input message
`i + (number dropped)`, not message `i`). -/
theorem C16_trim_is_suffix_partial (p : Path) (v : Int) (msgs ms' : List Msg)
    (h : trimLeadingEq p v msgs = some ms') : ∃ n, ms' = msgs.drop n := by
  revert h
  fun_cases trimLeadingEq p v msgs with
  | case1 => nofun
  | case2 => exact fun h => ⟨_, (Option.some.inj h).symm⟩
  | _ => exact fun h => ⟨0, (Option.some.inj h).symm⟩

/- The full statement ("all time-dependent arrays have one entry per message") cannot hold for a class with this
prelude: -/
theorem C16_trim_full_fails (p : Path) (v : Int) :
    ¬ ∀ msgs ms', trimLeadingEq p v msgs = some ms' → ms'.length = msgs.length := by
  intro h
  have := h [[(p, .s (.int v))], [(p, .s (.int (v + 1)))]] [[(p, .s (.int (v + 1)))]] (by
    have hne : v + 1 ≠ v := by omega
    simp [trimLeadingEq, Msg.get, List.lookup, allSome, intOf, argmaxNe, hne])
  simp at this

/-! ## 4. The generic path -/

/-- `MessagePayload._message_to_numpy`: every key is an attribute name of the first message and its array is built
from that same attribute of every message. -/
theorem C16_generic_same_name (dflt : List Nat) (m0 : Msg) (ms : List Msg) :
    ∀ ka ∈ genericToNumpy dflt (m0 :: ms), ka.1 ∈ topFields m0 ∧
      ka.2 = match allSome ((m0 :: ms).map (fun m => m.get [ka.1])) with
        | some vals => genericArr vals
        | none => .bad := by
  intro ka h
  simp only [genericToNumpy, List.mem_map] at h
  obtain ⟨f, hf, rfl⟩ := h
  exact ⟨hf, rfl⟩

/-- and the generic array of a numeric scalar / timestamp attribute has one entry per message, entry `i` being the
attribute of message `i` (timestamps as their seconds) -/
theorem C16_generic_positionwise (vals : List Val) (h : genericArr vals ≠ .bad)
    (hne : vals ≠ []) (hhom : (∀ v ∈ vals, ∃ b, v = Val.time b) ∨ (∀ v ∈ vals, ∃ x, v = Val.s x)) :
    (genericArr vals).timeLen false = some vals.length ∧
    ∀ i, (genericArr vals).atTime false i = (vals[i]?).map Val.asNumber := by
  -- for attributes of one numeric kind the generic array is `np.array` of their numbers
  have key : genericArr vals = stack (vals.map Val.asNumber) := by
    obtain ⟨v, vs, rfl⟩ := List.exists_cons_of_ne_nil hne
    rcases hhom with ht | hsc
    · obtain ⟨b, rfl⟩ := ht v List.mem_cons_self
      have : (Val.time b :: vs).map (elemConv .float) = ((Val.time b :: vs).map Val.asNumber).map some := by
        rw [List.map_map]
        exact List.map_congr_left fun u hu => by obtain ⟨b', rfl⟩ := ht u hu; rfl
      rw [genericArr, this, allSome_map_some]
    · obtain ⟨x, rfl⟩ := hsc v List.mem_cons_self
      rw [List.map_congr_left (g := id) fun u hu => by obtain ⟨y, rfl⟩ := hsc u hu; rfl, List.map_id]
      rfl
  rw [key] at h ⊢
  obtain ⟨_, l, g⟩ := stack_spec _ h
  exact ⟨by rw [l, List.length_map], fun i => by rw [g i, List.getElem?_map]⟩

/-! ## 5. Removing the entries without a valid P1 time removes the same positions everywhere -/

/-- `MessageData.to_numpy(remove_nan_times=True)`: let `kept` be the increasing list of positions whose P1 time is
not NaN (one list, computed once from `p1_time`). Every array that is not declared time-independent and has one
entry per message along its time axis is replaced by its restriction to `kept` along that axis — the same positions
for every key; arrays declared time-independent, and everything when no P1 time is NaN, are returned unchanged.
(For a 2-D array whose time axis is the first one the source requires the second dimension to differ from the
number of messages: with a square array it assumes time is along the columns.) -/
theorem C16_nan_removal_uniform (ntd : List Nat) (d : Dict) (p1 : List Scalar)
    (hp1 : dictGet d p1TimeKey = some (.a1 p1)) :
    ∃ d', removeNan true ntd d = some d' ∧ d'.map (·.1) = d.map (·.1) ∧
      ((∀ x ∈ p1, x.isNan = false) → d' = d) ∧
      ((∃ x ∈ p1, x.isNan = true) →
        ∀ i (hi : i < d.length), ∃ hi' : i < d'.length,
          (d[i].1 ∈ ntd → d'[i].2 = d[i].2) ∧
          (d[i].1 ∉ ntd → ∀ tr, d[i].2.WF → d[i].2.timeLen tr = some p1.length →
            (∀ rows cols, d[i].2 = .a2 rows cols → tr = false → cols ≠ p1.length) →
            d'[i].2.timeLen tr = some (keptIdx (p1.map (fun x => !x.isNan))).length ∧
            ∀ j, d'[i].2.atTime tr j = ((keptIdx (p1.map (fun x => !x.isNan)))[j]?).bind (d[i].2.atTime tr))) := by
  simp only [removeNan, hp1, Bool.true_eq_false, if_false]
  by_cases hn : ∃ x ∈ p1, x.isNan = true
  · rw [if_pos (List.any_eq_true.2 hn)]
    refine ⟨_, rfl, ?_, fun hall => ?_, fun _ i hi => ⟨by simpa using hi, fun hm => ?_, fun hm tr hwf hlen hax => ?_⟩⟩
    · rw [List.map_map]
      exact List.map_congr_left fun ka _ => by simp only [Function.comp]; split <;> rfl
    · obtain ⟨x, hx, hx'⟩ := hn
      exact absurd (hall x hx) (by simp [hx'])
    · rw [List.getElem_map, if_pos (List.contains_iff_mem.2 hm)]
    · rw [List.getElem_map, if_neg (mt List.contains_iff_mem.1 hm)]
      have hl : (p1.map fun x => !x.isNan).length = p1.length := List.length_map _
      exact removeOne_spec _ d[i].2 tr hwf (hl ▸ hlen) (hl ▸ hax)
  · rw [if_neg (mt List.any_eq_true.1 hn)]
    exact ⟨d, rfl, rfl, fun _ => rfl, fun h => absurd h hn⟩

/-- End to end for one converted field: after the removal, position `j` of the array holds what message
`kept[j]` contributed — for every array built by `np.array([ELEM for m in messages])[.T]`, with the one `kept`. -/
theorem C16_removal_of_converted (path : Path) (elem : Elem) (d : Dtype) (tr : Bool) (msgs : List Msg) (mask : List Bool)
    (h : evalPerMsg path elem d tr msgs ≠ .bad) (hm : mask.length = msgs.length)
    (hax : ∀ rows cols, evalPerMsg path elem d tr msgs = .a2 rows cols → tr = false → cols ≠ mask.length) :
    (removeOne mask (evalPerMsg path elem d tr msgs)).timeLen tr = some (keptIdx mask).length ∧
    ∀ j, (removeOne mask (evalPerMsg path elem d tr msgs)).atTime tr j =
      ((keptIdx mask)[j]?).bind (fun i => (msgs[i]?).bind (msgElem path elem d)) := by
  obtain ⟨w, l, g⟩ := C16_positionwise path elem d tr msgs h
  obtain ⟨r1, r2⟩ := removeOne_spec mask _ tr w (by rw [l, hm]) hax
  refine ⟨r1, fun j => ?_⟩
  rw [r2 j]
  cases (keptIdx mask)[j]? with
  | none => rfl
  | some i => exact (g i).1

/-- kept positions are exactly the positions with a valid P1 time, in increasing order, each once -/
theorem C16_kept_positions (mask : List Bool) :
    (∀ i ∈ keptIdx mask, i < mask.length ∧ mask[i]? = some true) ∧
    (∀ i, mask[i]? = some true → i ∈ keptIdx mask) ∧
    (keptIdx mask).Pairwise (· < ·) :=
  ⟨fun i hi => ⟨keptIdx_lt mask i hi, mem_keptIdx.1 hi⟩, fun _ => mem_keptIdx.2, keptIdx_pairwise mask⟩

/-! ## 6. `MessageData.to_numpy` called again: when the conversion may be skipped -/

/-- The conversion is skipped only when there are no messages to convert from, or the cached time vector has exactly
one entry per current message and its first and last entry equal the P1 times of the first and the last message.
(This is all the test establishes: a list changed in its interior with the same count and the same end times is not
told apart - reported as `C16/MessageData/sequence/same-count-same-end-times/...`.) -/
theorem C16_md_skip_only_if (cached : Dict) (e : Ends) (h : mdDecision cached e = .skip) :
    e.count = 0 ∨ ∃ p1 f l f' l', dictGet cached p1TimeKey = some (.a1 p1) ∧ p1.length = e.count ∧
      e.first = some f ∧ p1.head? = some (.flt f') ∧ fltNe f f' = false ∧
      e.last = some l ∧ p1.getLast? = some (.flt l') ∧ fltNe l l' = false := by
  revert h
  fun_cases mdDecision cached e with
  -- of the eleven branches two return `.skip`: no messages (case 2), and the last one of the ladder (case 8) -
  -- a cached 1-D `p1_time`, equal count, both end times present and neither `!=` its cached value
  | case2 p1 _ h0 => exact fun _ => Or.inl h0
  | case8 p1 hc _ hn f f' hh hf hne l l' hg hl hne' =>
    exact fun _ => Or.inr ⟨p1, f, l, f', l', hc, (Classical.not_not.1 hn).symm, hf, hh, by simpa using hne, hl, hg,
      by simpa using hne'⟩
  | _ => exact nofun

/-- No numpy members yet: the conversion is done. -/
theorem C16_md_first_conversion (cached : Dict) (e : Ends) (hc : dictGet cached p1TimeKey = none) :
    mdDecision cached e = .convert := by
  simp [mdDecision, hc]

/-- A change of the number of messages since the arrays were computed is always followed by a fresh conversion
(whatever bookkeeping the object keeps besides the list). -/
theorem C16_md_count_change_reconverts (cached : Dict) (e : Ends) (p1 : List Scalar)
    (hc : dictGet cached p1TimeKey = some (.a1 p1)) (h0 : e.count ≠ 0) (hn : e.count ≠ p1.length) :
    mdDecision cached e = .convert := by
  simp [mdDecision, hc, h0, hn]

/-- So is a change of the first or of the last P1 time (a NaN end time never counts as unchanged). -/
theorem C16_md_end_change_reconverts (cached : Dict) (e : Ends) (p1 : List Scalar) (f f' : Nat)
    (hc : dictGet cached p1TimeKey = some (.a1 p1)) (h0 : e.count ≠ 0)
    (hf : e.first = some f) (hh : p1.head? = some (.flt f')) (hne : fltNe f f' = true) :
    mdDecision cached e = .convert := by
  unfold mdDecision
  simp only [hc, h0, if_false, hf, hh, hne, if_true]
  split <;> rfl

/-- A skipped conversion leaves every attribute as it was. -/
theorem C16_md_skip_keeps (flag : Bool) (ntd : List Nat) (cached : Dict) (e : Ends) (conv : Dict)
    (h : mdDecision cached e = .skip) : mdToNumpy flag ntd cached e conv = .ok cached := by
  simp [mdToNumpy, h]

/-- Whenever the conversion is done, every output of the class conversion of the CURRENT message list is what the
object holds afterwards, whatever it held before (no removal requested) ... -/
theorem C16_md_converted_holds_current (ntd : List Nat) (cached : Dict) (e : Ends) (conv : Dict)
    (h : mdDecision cached e = .convert) :
    ∃ d, mdToNumpy false ntd cached e conv = .ok d ∧ ∀ k a, lastVal conv k = some a → dictGet d k = some a := by
  refine ⟨dictUpdate cached conv, by simp [mdToNumpy, h, removeNan], ?_⟩
  intro k a hk
  rw [dictGet_dictUpdate, hk]

/-- ... and with removal requested the result is the uniform removal (`C16_nan_removal_uniform`) applied to exactly
those attributes. -/
theorem C16_md_converted_then_removed (ntd : List Nat) (cached : Dict) (e : Ends) (conv : Dict) (p1 : List Scalar)
    (h : mdDecision cached e = .convert) (hp : lastVal conv p1TimeKey = some (.a1 p1)) :
    ∃ d, mdToNumpy true ntd cached e conv = .ok d ∧ removeNan true ntd (dictUpdate cached conv) = some d ∧
      dictGet (dictUpdate cached conv) p1TimeKey = some (.a1 p1) := by
  have hg : dictGet (dictUpdate cached conv) p1TimeKey = some (.a1 p1) := by rw [dictGet_dictUpdate, hp]
  obtain ⟨d, hd, _⟩ := C16_nan_removal_uniform ntd (dictUpdate cached conv) p1 hg
  exact ⟨d, by simp [mdToNumpy, h, hd], hd, hg⟩

/-- The two together, for the case a stale counter would miss: after any change of the message count the attributes
named by the class conversion describe the current list. -/
theorem C16_md_after_count_change (ntd : List Nat) (cached : Dict) (e : Ends) (conv : Dict) (p1 : List Scalar)
    (hc : dictGet cached p1TimeKey = some (.a1 p1)) (h0 : e.count ≠ 0) (hn : e.count ≠ p1.length) :
    ∃ d, mdToNumpy false ntd cached e conv = .ok d ∧ ∀ k a, lastVal conv k = some a → dictGet d k = some a :=
  C16_md_converted_holds_current ntd cached e conv (C16_md_count_change_reconverts cached e p1 hc h0 hn)

/-! ## 7. `DataLoader.to_numpy(data)`: every entry of a dictionary gets its own conversion, wherever it stands -/

/-- If no entry raises anything but `ValueError`, the loop is the entrywise map: every entry is what ITS OWN `to_numpy()`
makes of it, an entry that cannot be converted (`ValueError`) is left as it was - and ends nothing. -/
theorem C16_loader_entrywise {ε : Type} (step : ε → EntryStep ε) (es : List ε) (h : ∀ e ∈ es, step e ≠ .raises) :
    loaderToNumpy step es = some (es.map fun e => (step e).after e) := by
  fun_induction loaderToNumpy step es with
  | case1 => rfl
  | case2 e es e' hs ih => rw [ih fun x hx => h x (List.mem_cons_of_mem _ hx), List.map_cons, hs]; rfl
  | case3 e es hs ih => rw [ih fun x hx => h x (List.mem_cons_of_mem _ hx), List.map_cons, hs]; rfl
  | case4 e es hs => exact absurd hs (h e List.mem_cons_self)

/-- The result for one entry does not depend on its position in the dictionary nor on what the other entries are (in
particular not on unconvertible entries ahead of it). -/
theorem C16_loader_position_independent {ε : Type} (step : ε → EntryStep ε) (pre post : List ε) (e : ε)
    (h : ∀ x ∈ pre ++ e :: post, step x ≠ .raises) :
    ∃ r, loaderToNumpy step (pre ++ e :: post) = some r ∧ r.length = pre.length + 1 + post.length ∧
      r[pre.length]? = some ((step e).after e) := by
  refine ⟨_, C16_loader_entrywise step _ h, by simp; omega, ?_⟩
  simp

/-- Every entry is attempted. -/
theorem C16_loader_attempts_all {ε : Type} (step : ε → EntryStep ε) (es : List ε) (h : ∀ e ∈ es, step e ≠ .raises) :
    loaderAttempted step es = es.length := by
  fun_induction loaderAttempted step es with
  | case1 => rfl
  | case2 e es hs => exact absurd hs (h e List.mem_cons_self)
  | case3 e es hs ih => rw [ih fun x hx => h x (List.mem_cons_of_mem _ hx), List.length_cons, Nat.add_comm]

/-! ## Non-vacuity (executable checks of the model, not theorems) -/

-- an unconvertible entry first / in the middle / last: the convertible ones are converted all the same
#guard
  let step : Nat → EntryStep Nat := fun n => if n % 2 == 0 then .converted (n + 100) else if n == 7 then .raises else .valueError
  loaderToNumpy step [1, 2, 4] == some [1, 102, 104] && loaderToNumpy step [2, 1, 4] == some [102, 1, 104]
    && loaderToNumpy step [2, 4, 1] == some [102, 104, 1] && loaderToNumpy step [2, 7, 4] == none
    && loaderAttempted step [1, 2, 4] == 3 && loaderAttempted step [2, 7, 4] == 2

-- a transposed 3-vector field over two messages: A×N, column i = message i; NaN removal drops column 1 everywhere
#guard
  let k := encodeName "lla_deg"
  let e : Entry := { key := k, path := [k], kind := .perMsg .id .none true }
  let p : Entry := { key := p1TimeKey, path := [p1TimeKey], kind := .perMsg .float .none false }
  let m (t a b c : Nat) : Msg := [([p1TimeKey], .time t), ([k], .vec [.flt a, .flt b, .flt c])]
  let d := buildDict [p, e] [m 0x3ff8000000000000 1 2 3, m nanBits 4 5 6] []
  d == [(p1TimeKey, .a1 [.flt 0x3ff8000000000000, .flt nanBits]), (k, .a2 [[.flt 1, .flt 4], [.flt 2, .flt 5], [.flt 3, .flt 6]] 2)]
    && removeNan true [] d == some [(p1TimeKey, .a1 [.flt 0x3ff8000000000000]), (k, .a2 [[.flt 1], [.flt 2], [.flt 3]] 1)]

-- the extracted CalibrationStatus table drops a leading UNKNOWN-stage message (the documented trimming)
#guard (Gen.allTables.filter (fun t => t.prelude != .none)).length ≤ 1

-- three messages converted, two epochs inserted between the first and the last (same end times): converted again;
-- the same three messages: skipped; an interior message exchanged for another one: skipped as well (open finding)
#guard
  let p1 (xs : List Nat) : Dict := [(p1TimeKey, .a1 (xs.map .flt))]
  let t (n : Nat) : Nat := 0x3ff0000000000000 + n
  mdDecision (p1 [t 1, t 2, t 3]) ⟨5, some (t 1), some (t 3)⟩ == .convert
    && mdDecision (p1 [t 1, t 2, t 3]) ⟨3, some (t 1), some (t 3)⟩ == .skip
    && mdDecision (p1 [t 1, t 2, t 3]) ⟨3, some (t 1), some (t 4)⟩ == .convert
    && mdDecision (p1 [t 1, t 2, nanBits]) ⟨3, some (t 1), some nanBits⟩ == .convert
    && mdDecision [] ⟨0, none, none⟩ == .convert
    && mdDecision (p1 [t 1]) ⟨0, none, none⟩ == .skip
    && mdDecision (p1 [t 1, t 2]) ⟨2, none, none⟩ == .raises
    && mdToNumpy true [] (p1 [t 1, t 2]) ⟨3, some (t 1), some (t 2)⟩ (p1 [t 1, nanBits, t 2]) == .ok (p1 [t 1, t 2])

end FeVerif
