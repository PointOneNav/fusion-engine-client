/-
C08 — the log index lists exactly the messages of a sequential scan of the file.

`Indexer.index file R M nt` is the model of `fast_generate_index` (FeVerif/Model/Indexer.lean) with read
size `R` (`_READ_SIZE_BYTES`), overlap `M` (`_MAX_FE_MSG_SIZE_BYTES`) and `nt` worker processes
(`Pool.starmap` = ordered map); `cfgFile.runFile file 0` is the sequential left-to-right scan of the file
(sync bytes, payload size within the sanity limit, whole message present, CRC).  The model is tied to
fast_indexer.py by tools/props/c08.py (module constants rebound to small values so that every placement
relative to block boundaries occurs, worker counts 1..16).
-/
import FeVerif.Proofs.IndexerMain

namespace FeVerif
open Indexer

/-- **Index = sequential scan**, for every file, every even read size, every overlap ≥ 24 and every
number of workers, provided no message the scan's criteria accept anywhere in the file is longer than
the overlap (the indexer's documented size limit). -/
theorem C08_index_eq_scan (file : Bytes) (R M nt : Nat) (hR : 0 < R) (hRe : R % 2 = 0) (hM : 24 ≤ M)
    (hnt : 0 < nt)
    (hsz : ∀ p n, cfgFile.stepFile (file.drop p) = .emit n → n ≤ M) :
    (index file R M nt).map (fun e => (e.off, e.size)) = cfgFile.runFile file 0 :=
  index_eq_scan hR hRe (fun p n h => hsz p n (validAt_eq_some.1 h)) nt hnt

/-- The result does not depend on the number of worker processes. -/
theorem C08_independent_of_workers (file : Bytes) (R M nt nt' : Nat) (hR : 0 < R) (hRe : R % 2 = 0)
    (hM : 24 ≤ M) (hnt : 0 < nt) (hnt' : 0 < nt')
    (hsz : ∀ p n, cfgFile.stepFile (file.drop p) = .emit n → n ≤ M) :
    (index file R M nt).map (fun e => (e.off, e.size)) = (index file R M nt').map (fun e => (e.off, e.size)) := by
  rw [C08_index_eq_scan file R M nt hR hRe hM hnt hsz, C08_index_eq_scan file R M nt' hR hRe hM hnt' hsz]

/-- The result does not depend on where the block boundaries fall. -/
theorem C08_independent_of_blocking (file : Bytes) (R M R' M' nt : Nat) (hR : 0 < R) (hRe : R % 2 = 0)
    (hR' : 0 < R') (hRe' : R' % 2 = 0) (hM : 24 ≤ M) (hM' : 24 ≤ M') (hnt : 0 < nt)
    (hsz : ∀ p n, cfgFile.stepFile (file.drop p) = .emit n → n ≤ M)
    (hsz' : ∀ p n, cfgFile.stepFile (file.drop p) = .emit n → n ≤ M') :
    (index file R M nt).map (fun e => (e.off, e.size)) = (index file R' M' nt).map (fun e => (e.off, e.size)) := by
  rw [C08_index_eq_scan file R M nt hR hRe hM hnt hsz, C08_index_eq_scan file R' M' nt hR' hRe' hM' hnt hsz']

theorem sequentialPass_mem (p : Nat) (l : List Entry) : ∀ e ∈ sequentialPass p l, e ∈ l := by
  fun_induction sequentialPass p l with
  | case1 => nofun
  | case2 _ a r _ ih =>
    intro e he
    rcases List.mem_cons.1 he with rfl | h
    · exact List.mem_cons_self
    · exact List.mem_cons_of_mem _ (ih e h)
  | case3 _ a r _ ih => exact fun e he => List.mem_cons_of_mem _ (ih e he)

/-- Whatever the file contains (no size hypothesis), every entry the index holds points at a message
that passes all of the scan's criteria over the bytes of the file — in particular its CRC — and carries
that message's type. -/
theorem C08_entries_valid (file : Bytes) (R M nt : Nat) :
    ∀ e ∈ index file R M nt,
      cfgFile.stepFile (file.drop e.off) = .emit e.size ∧ e.type = u16le file (e.off + 10) := by
  intro e he
  have := mem_candidates (sequentialPass_mem _ _ e he)
  exact ⟨validAt_eq_some.1 this.1, this.2⟩

/-- The entries are in strictly increasing file order and do not overlap (so the ordinal of an entry
is its position in the list, and no message is listed twice). -/
theorem C08_entries_ordered (file : Bytes) (R M nt : Nat) (hR : 0 < R) (hRe : R % 2 = 0) (hM : 24 ≤ M)
    (hnt : 0 < nt) (hsz : ∀ p n, cfgFile.stepFile (file.drop p) = .emit n → n ≤ M) :
    ((index file R M nt).map (fun e => (e.off, e.size))).Pairwise fun a b => a.1 + a.2 ≤ b.1 := by
  rw [C08_index_eq_scan file R M nt hR hRe hM hnt hsz]
  exact Cfg.runFile_pairwise file 0

-- executable sanity check (a test): two messages, a block boundary inside the first, 3 workers
#guard (index ([0x2E, 0x31, 0, 0, 0xF7, 0x1F, 0xA4, 0xC3, 2, 0, 0x10, 0x27, 0, 0, 0, 0, 0, 0, 0, 0, 0, 0, 0, 0] ++ [7] ++
    [0x2E, 0x31, 0, 0, 0xF7, 0x1F, 0xA4, 0xC3, 2, 0, 0x10, 0x27, 0, 0, 0, 0, 0, 0, 0, 0, 0, 0, 0, 0]) 16 24 3).map
      (fun e => (e.off, e.size)) == [(0, 24), (25, 24)]

end FeVerif
