/-
C19 — Yaw/heading conversions are mutually inverse and range-normalised.

  For every finite angle, converting yaw (counter-clockwise from east) to compass heading gives the angle
  congruent to 90° − yaw within [0, 360), converting heading to yaw gives the angle congruent to 90° − heading
  within [−180, 180), the two conversions are inverse up to a full turn, and the radian variants agree with
  the degree variants; scalars and arrays give identical element-wise results.

The theorems are about the definitions of `Model/Angle.lean` themselves (the ones the native driver executes):
`Rat` there is Lean's own rational type.

PARTIAL with respect to the property text in one respect only: the arithmetic here is exact.  The code computes
in IEEE-754 binary64, where each `+`/`-` rounds (`np.fmod` itself is exact).  The congruences then hold up to
rounding error (a tolerance in the check).  Whether a rounded result can land exactly on the excluded end point
(`360.0`, `180.0`) is decided only relative to the hypotheses `Rounding` (section "Range under rounded arithmetic":
for every monotone rounding that is exact on representable values the results stay in range; for radians the
spacing fact below `2·math.pi` is a hypothesis).  That NumPy's binary64 arithmetic satisfies `Rounding` is not
proved; it is covered by the boundary inputs of `tools/props/c19.py` (every multiple of 45° ± 1..3 ulp, ±5e-324,
±1e-300, −1e-17 offsets, wrap points thousands of turns away), by the range oracle run on every generated input
and by the bit-exact comparison of NumPy with the executable rounded model.  No theorem below is named `_partial`
because each is the full statement for the arithmetic it names; the float layer is the named gap.
-/
import FeVerif.Proofs.Angle

namespace FeVerif

open Angle

/-! ### Any unit: the half turn `H` is a positive parameter, so `π` need not be rational -/

/-- the `deg=False` branch with half turn `H > 0` has the corresponding ranges `[0, 2H)` and `[−H, H)` -/
theorem C19_rad_range {H : Rat} (hH : 0 < H) (x : Rat) :
    (0 ≤ yawToHeadingH H x ∧ yawToHeadingH H x < 2 * H) ∧ (-H ≤ headingToYawH H x ∧ headingToYawH H x < H) := by
  have h1 := wrapAngle_range (a := H / 2 - x) (T := 2 * H) (by grind)
  have h2 := wrapAngle_range (a := H / 2 - x + H) (T := 2 * H) (by grind)
  simp only [yawToHeadingH, headingToYawH]
  exact ⟨h1, by grind, by grind⟩

/-- the `deg=False` branch is congruent to a quarter turn minus the input, modulo a full turn `2H` -/
theorem C19_rad_congr (H x : Rat) :
    (∃ k : Int, yawToHeadingH H x = H / 2 - x + 2 * H * (k : Rat)) ∧
    (∃ k : Int, headingToYawH H x = H / 2 - x + 2 * H * (k : Rat)) := by
  obtain ⟨k1, h1⟩ := wrapAngle_congr (H / 2 - x) (2 * H)
  obtain ⟨k2, h2⟩ := wrapAngle_congr (H / 2 - x + H) (2 * H)
  simp only [yawToHeadingH, headingToYawH]
  exact ⟨⟨k1, h1⟩, ⟨k2, by grind⟩⟩

/-- the radian variants agree with the degree variants: converting the input from degrees to the unit in which
the half turn is `H` (`x ↦ x·H/180`) and converting the degree result the same way give the same value -/
theorem C19_rad_deg_agree {H : Rat} (hH : 0 < H) (x : Rat) :
    yawToHeadingH H (x * H / 180) = yawToHeading x * H / 180 ∧
    headingToYawH H (x * H / 180) = headingToYaw x * H / 180 := by
  have hc : H / 180 ≠ 0 := by grind
  have e1 : H / 2 - x * H / 180 = H / 180 * (180 / 2 - x) := by grind
  have e2 : H / 2 - x * H / 180 + H = H / 180 * (180 / 2 - x + 180) := by grind
  have e3 : 2 * H = H / 180 * (2 * 180) := by grind
  simp only [yawToHeading, headingToYaw, yawToHeadingH, headingToYawH]
  rw [e2, e1, e3, wrapAngle_scale hc, wrapAngle_scale hc]
  constructor <;> grind

/-! ### Degrees: the half turn is 180 -/

/-- heading ∈ [0, 360) for every yaw -/
theorem C19_heading_range (y : Rat) : 0 ≤ yawToHeading y ∧ yawToHeading y < 360 := by
  have h := (C19_rad_range (H := 180) (by decide) y).1
  rwa [show (2 : Rat) * 180 = 360 by decide +kernel] at h

/-- heading ≡ 90 − yaw (mod 360) -/
theorem C19_heading_congr (y : Rat) : ∃ k : Int, yawToHeading y = 90 - y + 360 * (k : Rat) := by
  obtain ⟨k, hk⟩ := (C19_rad_congr 180 y).1
  exact ⟨k, by rw [yawToHeading, hk]; grind⟩

/-- yaw ∈ [−180, 180) for every heading -/
theorem C19_yaw_range (h : Rat) : -180 ≤ headingToYaw h ∧ headingToYaw h < 180 :=
  (C19_rad_range (H := 180) (by decide) h).2

/-- yaw ≡ 90 − heading (mod 360) -/
theorem C19_yaw_congr (h : Rat) : ∃ k : Int, headingToYaw h = 90 - h + 360 * (k : Rat) := by
  obtain ⟨k, hk⟩ := (C19_rad_congr 180 h).2
  exact ⟨k, by rw [headingToYaw, hk]; grind⟩

/-- the two conversions are inverse up to a whole number of turns, in both orders -/
theorem C19_inverse_mod_turn (x : Rat) :
    (∃ k : Int, headingToYaw (yawToHeading x) = x + 360 * (k : Rat)) ∧
    (∃ k : Int, yawToHeading (headingToYaw x) = x + 360 * (k : Rat)) :=
  ⟨inverse_mod_of_congr C19_heading_congr C19_yaw_congr x, inverse_mod_of_congr C19_yaw_congr C19_heading_congr x⟩

/-- on the normalised ranges the conversions are exact inverses -/
theorem C19_inverse_in_range :
    (∀ y : Rat, -180 ≤ y → y < 180 → headingToYaw (yawToHeading y) = y) ∧
    (∀ h : Rat, 0 ≤ h → h < 360 → yawToHeading (headingToYaw h) = h) := by
  constructor
  · intro y h1 h2
    obtain ⟨k, hk⟩ := (C19_inverse_mod_turn y).1
    exact eq_of_congr_of_range (C19_yaw_range _) ⟨h1, h2⟩ (by decide +kernel) hk
  · intro h h1 h2
    obtain ⟨k, hk⟩ := (C19_inverse_mod_turn h).2
    exact eq_of_congr_of_range (C19_heading_range _) ⟨h1, h2⟩ (by decide +kernel) hk

/-- both conversions are periodic: a full turn on the input does not change the output -/
theorem C19_periodic (x : Rat) (n : Int) :
    yawToHeading (x + 360 * (n : Rat)) = yawToHeading x ∧ headingToYaw (x + 360 * (n : Rat)) = headingToYaw x :=
  ⟨periodic_of_congr_of_range C19_heading_congr C19_heading_range (by decide +kernel) x n,
    periodic_of_congr_of_range C19_yaw_congr C19_yaw_range (by decide +kernel) x n⟩

/-! ### Call forms: the unit is what the second positional argument / the keyword `deg` says, degrees by default -/

/-- what a call asks for depends only on the truth value of the flag, not on how it is passed; an omitted flag and a
true flag are the degree conversion, a false flag is the radian conversion (half turn `piD`) -/
theorem C19_call_forms_agree (piD x : Rat) (b : Bool) :
    yawToHeadingCall piD (.positional b) x = yawToHeadingCall piD (.keyword b) x ∧
    headingToYawCall piD (.positional b) x = headingToYawCall piD (.keyword b) x ∧
    yawToHeadingCall piD .omitted x = yawToHeading x ∧ headingToYawCall piD .omitted x = headingToYaw x ∧
    yawToHeadingCall piD (.positional true) x = yawToHeading x ∧ headingToYawCall piD (.positional true) x = headingToYaw x ∧
    yawToHeadingCall piD (.positional false) x = yawToHeadingH piD x ∧
    headingToYawCall piD (.positional false) x = headingToYawH piD x :=
  ⟨rfl, rfl, rfl, rfl, rfl, rfl, rfl, rfl⟩

/-- every call form lands in the range of the unit it names: [0, 360) / [−180, 180), or [0, 2π) / [−π, π) -/
theorem C19_call_range {piD : Rat} (hpi : 0 < piD) (u : UnitArg) (x : Rat) :
    (0 ≤ yawToHeadingCall piD u x ∧ yawToHeadingCall piD u x < 2 * halfTurn piD u.deg) ∧
    (-(halfTurn piD u.deg) ≤ headingToYawCall piD u x ∧ headingToYawCall piD u x < halfTurn piD u.deg) := by
  have hH : 0 < halfTurn piD u.deg := by
    unfold halfTurn
    split
    · decide
    · exact hpi
  exact C19_rad_range hH x

/-- every call form is congruent to a quarter turn (of its unit) minus the input -/
theorem C19_call_congr (piD : Rat) (u : UnitArg) (x : Rat) :
    (∃ k : Int, yawToHeadingCall piD u x = halfTurn piD u.deg / 2 - x + 2 * halfTurn piD u.deg * (k : Rat)) ∧
    (∃ k : Int, headingToYawCall piD u x = halfTurn piD u.deg / 2 - x + 2 * halfTurn piD u.deg * (k : Rat)) :=
  C19_rad_congr (halfTurn piD u.deg) x

/-! ### Arrays -/

/-- an array argument gives, position by position, the scalar result (same length, same elements) -/
theorem C19_array_elementwise (H : Rat) (xs : List Rat) :
    yawToHeadingArr H xs = xs.map (yawToHeadingH H) ∧ headingToYawArr H xs = xs.map (headingToYawH H) ∧
    (yawToHeadingArr H xs).length = xs.length ∧ (headingToYawArr H xs).length = xs.length ∧
    (∀ i (hi : i < xs.length), (yawToHeadingArr H xs)[i]? = some (yawToHeadingH H xs[i])) ∧
    (∀ i (hi : i < xs.length), (headingToYawArr H xs)[i]? = some (headingToYawH H xs[i])) := by
  refine ⟨rfl, rfl, by simp [yawToHeadingArr], by simp [headingToYawArr], ?_, ?_⟩
  · intro i hi
    simp [yawToHeadingArr, List.getElem?_eq_getElem hi]
  · intro i hi
    simp [headingToYawArr, List.getElem?_eq_getElem hi]

/-- every element of a converted array is in range (degrees) -/
theorem C19_array_range (xs : List Rat) :
    (∀ v ∈ yawToHeadingArr 180 xs, 0 ≤ v ∧ v < 360) ∧ (∀ v ∈ headingToYawArr 180 xs, -180 ≤ v ∧ v < 180) := by
  constructor
  · intro v hv
    obtain ⟨x, _, rfl⟩ := List.mem_map.mp hv
    exact C19_heading_range x
  · intro v hv
    obtain ⟨x, _, rfl⟩ := List.mem_map.mp hv
    exact C19_yaw_range x

/-! ### Range under rounded arithmetic

`yawToHeadingR` / `headingToYawR` round every `+` and `-` with `R.rnd`.  For any format and rounding with the
properties listed in `Spec/Angle.lean` (`Rounding`: monotone, exact on representable values, `fmod` closed) the
results stay inside the half-open ranges: rounding cannot produce the excluded end point.  That binary64 with
round-to-nearest-even *is* such a `Rounding` is standard IEEE-754 but is not proved here; the check ties the
executable instance (`roundDouble`) to NumPy by exact equality of results. -/

/-- rounded heading ∈ [0, 2H): the sum `fmod … + 2H` may round up to exactly `2H`, the second `fmod` maps that to 0 -/
theorem C19_heading_range_rounded (R : Rounding) (h0 : R.rep 0) {H : Rat} (hH : 0 < H) (y : Rat) :
    0 ≤ yawToHeadingR R.rnd H y ∧ yawToHeadingR R.rnd H y < 2 * H :=
  wrapAngleR_range R h0 (by grind)

/-- rounded yaw ∈ [−H, H), given the largest representable value `p` below `H` bounds `w − H` for every representable
`w < 2H` (a fact about the spacing of the format just below `2H`, see `C19_yaw_range_binary64`) -/
theorem C19_yaw_range_rounded (R : Rounding) (h0 : R.rep 0) {H : Rat} (hH : 0 < H) (hnH : R.rep (-H))
    (hT : R.rep (2 * H)) {p : Rat} (hp : R.rep p) (hpH : p < H)
    (hgap : ∀ w, R.rep w → w < 2 * H → w - H ≤ p) (h : Rat) :
    -H ≤ headingToYawR R.rnd H h ∧ headingToYawR R.rnd H h < H := by
  have hw := wrapAngleR_range R h0 (a := R.rnd (R.rnd (H / 2 - h) + H)) (T := 2 * H) (by grind)
  have hrep := wrapAngleR_rep R hT (R.rnd (R.rnd (H / 2 - h) + H))
  simp only [headingToYawR]
  constructor
  · have := R.mono (a := -H) (b := wrapAngleR R.rnd (R.rnd (R.rnd (H / 2 - h) + H)) (2 * H) - H) (by grind)
    rwa [R.fix hnH] at this
  · have := R.mono (hgap _ hrep hw.2)
    rw [R.fix hp] at this
    grind

/-- binary64, degrees: whatever the (monotone, exact-on-doubles) rounding mode, `heading_to_yaw` stays in [−180, 180)
and `yaw_to_heading` in [0, 360) -/
theorem C19_range_binary64 (R : Rounding) (hrep : ∀ x, R.rep x ↔ IsDouble x) (x : Rat) :
    (0 ≤ yawToHeadingR R.rnd 180 x ∧ yawToHeadingR R.rnd 180 x < 360) ∧
    (-180 ≤ headingToYawR R.rnd 180 x ∧ headingToYawR R.rnd 180 x < 180) := by
  have h0 : R.rep 0 := (hrep 0).mpr (isDouble_int 0 (by decide))
  have e : (2 : Rat) * 180 = 360 := by decide +kernel
  constructor
  · exact e ▸ C19_heading_range_rounded R h0 (H := 180) (by decide) x
  · refine C19_yaw_range_rounded R h0 (H := 180) (by decide) ((hrep _).mpr (isDouble_int (-180) (by decide)))
      ((hrep _).mpr (e ▸ isDouble_int 360 (by decide))) ((hrep _).mpr isDouble_pred_180) (by decide +kernel) ?_ x
    intro w hw hlt
    have := isDouble_lt_360 ((hrep w).mp hw) (e ▸ hlt)
    grind

/-- with exact arithmetic as the (trivial) rounding the rounded formulas are the exact ones: the hypotheses of the
theorems above are satisfiable and the two models are the same function there -/
theorem C19_rounded_exact_agree (H x : Rat) :
    yawToHeadingR Rounding.exact.rnd H x = yawToHeadingH H x ∧ headingToYawR Rounding.exact.rnd H x = headingToYawH H x := by
  simp [yawToHeadingR, headingToYawR, wrapAngleR, yawToHeadingH, headingToYawH, wrapAngle, Rounding.exact]

/-! ### The formulas before the repair (commit 085562a) do not have the property

`np.fmod(90.0 - yaw + 180.0, 360.0)`: wrong offset (`yaw = 0`, east, gave 270 instead of 90) and, because `fmod`
keeps the dividend's sign, results outside the range (`yaw = 300` gave −30; `heading = 300` gave −210). -/
theorem C19_prefix_formula_fails :
    ¬ (∀ y : Rat, (0 ≤ yawToHeadingOld y ∧ yawToHeadingOld y < 360) ∧
        ∃ k : Int, yawToHeadingOld y = 90 - y + 360 * (k : Rat)) ∧
    ¬ (∀ h : Rat, -180 ≤ headingToYawOld h ∧ headingToYawOld h < 180) :=
  ⟨fun h => absurd (h 300).1.1 (by decide +kernel), fun h => absurd (h 300).1 (by decide +kernel)⟩

/-! ### Non-vacuity: concrete values, computed by the same definitions -/
#guard yawToHeading 0 == 90 && yawToHeading 90 == 0 && yawToHeading 300 == 150 && yawToHeading (-270) == 0
#guard headingToYaw 0 == 90 && headingToYaw 300 == 150 && headingToYaw 270 == -180 && headingToYaw (-90 - 1/1000) == -180 + 1/1000
#guard yawToHeadingArr 180 [0, 45, 450, -1/3] == [90, 45, 0, 90 + 1/3]
#guard yawToHeadingR roundDouble 180 (90 + pow2 (-46)) == 0 && headingToYawR roundDouble 180 (270 + pow2 (-44)) == 180 - pow2 (-44)

end FeVerif
