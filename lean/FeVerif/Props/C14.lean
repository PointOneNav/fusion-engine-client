/-
C14 — the C++ RTCM framer dispatches exactly the CRC-valid RTCM 3 frames, counts them, and never
leaves its buffer.

Model: FeVerif/Model/RtcmFramer.lean (literal transcription of src/point_one/rtcm/rtcm_framer.cc:
`OnData`, `OnByte`, `Resync`, `SetBuffer`, `Reset`, `CRC24Hash`), tied to the compiled code by
tools/props/c14.py (per call: callbacks, return value, private state; ASan/UBSan).
Specification: `(cfgRtcm capacity).run stream 0` — the shared left-to-right scan (Spec/Frame.lean)
with the RTCM 3 header and CRC-24Q (Spec/Rtcm.lean); `capacity` is `capacity_bytes_`, the size of the
buffer after `SetBuffer` aligned it.
-/
import FeVerif.Proofs.Rtcm

namespace FeVerif
open RtcmFramer

/-! ### CRC table and constants of the source -/

/-- The 256 literals of `RTCM_CRC24Q` in rtcm_framer.cc (regenerated from the source on every run by
tools/c14_crc_extract.py) are the table of the polynomial 0x1864CFB. -/
theorem C14_crc24_table_correct : Generated.rtcmCrc24qLiteral = crc24Table :=
  crc24_table

/-- Hence `CRC24Hash` as written in the source computes CRC-24Q (table-driven form) on every input. -/
theorem C14_crc24_source_eq_spec (data : Bytes) : crc24Src data = crc24q data :=
  crc24Src_eq data

/-- The framing constants written in the source are those of RTCM 3 the model and the
specification use: preamble 0xD3, 3 header bytes, 3 CRC bytes, 10-bit length (mask 0x3FF, max 1023). -/
theorem C14_source_constants :
    Generated.src_RTCM3_PREAMBLE = 0xD3 ∧ Generated.src_RTCM_HEADER_BYTES = 3 ∧
      Generated.src_RTCM_CRC_BYTES = 3 ∧ Generated.src_RTCM_MAX_PAYLOAD = 1023 ∧
      Generated.src_RTCM_LENGTH_MASK = 0x3FF := by
  decide

/-! ### What the scan accepts -/

/-- The verdict "the first `n` bytes of `buf` are a frame", spelled out: preamble, `n` is the 10-bit
length plus 6, the frame fits the buffer, all bytes present, and the CRC-24Q of the first `n - 3`
bytes equals the last three bytes (big endian). -/
theorem C14_accept_criteria (cap : Nat) (buf : Bytes) (n : Nat) :
    (cfgRtcm cap).step buf = .emit n ↔
      byteAt buf 0 = 0xD3 ∧ n = rtcmPayloadLen buf + 6 ∧ n ≤ cap ∧ n ≤ buf.length ∧
        crc24q (buf.take (n - 3)) = be24At buf (n - 3) := by
  rw [Cfg.step_emit_iff]
  show 3 ≤ buf.length ∧ (cfgRtcm cap).headerOk (buf.take 3) = true ∧ n = (cfgRtcm cap).msgLen buf ∧ n ≤ buf.length ∧
    (cfgRtcm cap).bodyOk (buf.take n) = true ↔ _
  rw [rtcm_headerOk, rtcm_msgLen]
  constructor
  · rintro ⟨_, ⟨h0, hcap⟩, rfl, hle, hbody⟩
    exact ⟨h0, rfl, hcap, hle, (rtcm_bodyOk cap hle).1 hbody⟩
  · rintro ⟨h0, rfl, hcap, hle, hcrc⟩
    exact ⟨Nat.le_trans (Nat.le_add_left 3 _) hle, ⟨h0, hcap⟩, rfl, hle, (rtcm_bodyOk cap hle).2 hcrc⟩

/-- What the callback must be handed for `stream`: for every `(offset, length)` the scan accepts, the
message number `(b₃b₄) >> 4` and the bytes of the frame, in order. -/
def rtcmExpected (cap : Nat) (stream : Bytes) : List RtcmCb :=
  ((cfgRtcm cap).run stream 0).msgs.map fun p => ⟨rtcmMsgNum (slice stream p.1 p.2), slice stream p.1 p.2⟩

/-- The bytes a framer has stored but not judged. -/
def RtcmFramer.Rtcm.pending (s : Rtcm) : Bytes := s.buf.take s.next

theorem C14_expected_eq_scan (cap : Nat) (stream : Bytes) :
    rtcmExpected cap stream = (nscan cap stream).1.map cbOf := by
  simp [rtcmExpected, nscan, Cfg.scan, cbOf, Function.comp_def]

/-- The accepted `(offset, length)` pairs lie in the stream, each is a frame by `C14_accept_criteria` on
its own bytes, and they are listed in increasing, non-overlapping order: no frame is dispatched twice,
out of order, or from inside a previously accepted frame. -/
theorem C14_dispatch_sound (cap : Nat) (stream : Bytes) :
    Cfg.Sound (cfgRtcm cap) stream 0 0 ((cfgRtcm cap).run stream 0).msgs :=
  Cfg.run_sound _ _

/-- Nothing acceptable is skipped: a position the scan has passed at which a frame would be accepted
lies inside (or is the start of) an accepted frame. -/
theorem C14_dispatch_complete (cap : Nat) (stream : Bytes) (p n : Nat)
    (hp : p < ((cfgRtcm cap).run stream 0).off) (hv : (cfgRtcm cap).step (stream.drop p) = .emit n) :
    ∃ o l, (o, l) ∈ ((cfgRtcm cap).run stream 0).msgs ∧ o ≤ p ∧ p < o + l :=
  Cfg.run_complete stream 0 p n (Nat.zero_le _) hp (by simpa using hv)

/-- Every expected callback is a CRC-valid RTCM 3 frame that fits the buffer, handed over with its
length and the message number of its own bytes. -/
theorem C14_callbacks_valid (cap : Nat) (stream : Bytes) (cb : RtcmCb) (h : cb ∈ rtcmExpected cap stream) :
    byteAt cb.frame 0 = 0xD3 ∧ cb.frame.length = rtcmPayloadLen cb.frame + 6 ∧ cb.frame.length ≤ cap ∧
      crc24q (cb.frame.take (cb.frame.length - 3)) = be24At cb.frame (cb.frame.length - 3) ∧
      cb.msgType = rtcmMsgNum cb.frame := by
  unfold rtcmExpected at h
  obtain ⟨⟨o, n⟩, hm, rfl⟩ := List.mem_map.1 h
  obtain ⟨_, _, hfit, hstep⟩ := Cfg.sound_mem (Cfg.run_sound (c := cfgRtcm cap) stream 0) hm
  simp only [Nat.sub_zero, Nat.zero_add] at hstep hfit
  have hlen : (slice stream o n).length = n := by simp [slice]; omega
  -- an accepted frame is accepted on its own bytes
  have hown : (cfgRtcm cap).step (slice stream o n) = .emit n := Cfg.step_emit_take hstep (Nat.le_refl n)
  obtain ⟨h1, h2, h3, _, h5⟩ := (C14_accept_criteria cap _ n).1 hown
  simp only [hlen]
  exact ⟨h1, h2, h3, h5, trivial⟩

/-! ### Chunking independence (any state, including unreachable ones) -/

/-- `OnData(a ++ b)` is `OnData(a)` followed by `OnData(b)`: same final state (buffer contents,
indices, counters), callbacks concatenated, return values added. -/
theorem C14_onData_append (s : Rtcm) (a b : Bytes) :
    onData s (a ++ b) =
      ⟨(onData (onData s a).s b).s, (onData s a).ret + (onData (onData s a).s b).ret,
        (onData s a).cbs ++ (onData (onData s a).s b).cbs⟩ :=
  onData_append s a b

/-- Any two ways of cutting the same bytes into `OnData` calls end in the same state, make the same
callbacks in the same order and return the same total. -/
theorem C14_chunking_independent (s : Rtcm) (parts₁ parts₂ : List Bytes) (h : parts₁.flatten = parts₂.flatten) :
    (rtcmFeed s parts₁).1 = (rtcmFeed s parts₂).1 ∧ (rtcmFeed s parts₁).2.2 = (rtcmFeed s parts₂).2.2 ∧
      (rtcmFeed s parts₁).2.1.sum = (rtcmFeed s parts₂).2.1.sum := by
  obtain ⟨a1, a2, a3⟩ := rtcmFeed_flatten s parts₁
  obtain ⟨b1, b2, b3⟩ := rtcmFeed_flatten s parts₂
  rw [a1, a2, a3, b1, b2, b3, h]
  exact ⟨rfl, rfl, rfl⟩

/-! ### Refinement to the scan -/

/-- Core statement: a framer that holds nothing (`SYNC`, as after `Reset()`), fed `chunks` by successive
`OnData` calls, makes exactly the callbacks of the scan of the concatenated bytes — same order, same
bytes, message number `(b₃b₄) >> 4` —, its return values add up to the dispatched sizes, it retains
exactly what the scan cannot judge yet (without leading non-preamble bytes), and it has counted the
callbacks. -/
theorem C14_refines_scan_from_sync (s : Rtcm) (chunks : List Bytes) (h : Coh s.cap s []) :
    (rtcmFeed s chunks).2.2 = rtcmExpected s.cap chunks.flatten ∧
      (rtcmFeed s chunks).2.1.sum = ((rtcmFeed s chunks).2.2.map fun c => c.frame.length).sum ∧
      (rtcmFeed s chunks).1.pending = rtcmNorm ((cfgRtcm s.cap).run chunks.flatten 0).rest ∧
      (rtcmFeed s chunks).1.decoded = (s.decoded + (rtcmFeed s chunks).2.2.length) % 4294967296 := by
  have H := rtcmFeed_spec chunks h
  rw [List.nil_append] at H
  have h1 : (rtcmFeed s chunks).2.2 = _ := H.cbs
  have h3 : (rtcmFeed s chunks).2.1.sum = _ := H.ret
  have h4 : (rtcmFeed s chunks).1.decoded = _ := H.dec
  rw [C14_expected_eq_scan]
  exact ⟨h1, by rw [h3, h1, cbs_frames_len, Nat.zero_add], H.coh.pref, by rw [h4, h1, List.length_map]; rfl⟩

/-- **C14, dispatch.** A framer constructed with any buffer (internal, or a caller's buffer at any
address) of any capacity that yields a buffer at all, fed any byte stream in any chunking: its callbacks
are exactly the frames the left-to-right scan accepts for the buffer capacity in force, once each, in
order, with their bytes and message numbers. -/
theorem C14_rtcm_refines_scan (buffer : Option Nat) (capacityBytes allocAddr : Nat) (fill : Nat → Byte)
    (chunks : List Bytes) (hb : (Rtcm.construct buffer capacityBytes allocAddr fill).hasBuf = true) :
    (rtcmFeed (Rtcm.construct buffer capacityBytes allocAddr fill) chunks).2.2 =
      rtcmExpected (Rtcm.construct buffer capacityBytes allocAddr fill).cap chunks.flatten := by
  rcases construct_cases buffer capacityBytes allocAddr fill with e | hc
  · rw [e] at hb; cases hb
  · exact (C14_refines_scan_from_sync _ chunks hc).1

/-- The same after `Reset()` in any reachable state (the history before the reset is forgotten). -/
theorem C14_rtcm_refines_scan_after_reset (s : Rtcm) (hr : RtcmReach s) (hb : s.hasBuf = true)
    (chunks : List Bytes) :
    (rtcmFeed s.reset chunks).2.2 = rtcmExpected s.cap chunks.flatten ∧
      (rtcmFeed s.reset chunks).1.pending = rtcmNorm ((cfgRtcm s.cap).run chunks.flatten 0).rest := by
  have := C14_refines_scan_from_sync s.reset chunks ((inv_reach hr).coh hb).base.reset_coh
  exact ⟨this.1, this.2.2.1⟩

/-- In any reachable state: one more `OnData` call delivers exactly what the scan finds in the stored
candidate followed by the new bytes. -/
theorem C14_rtcm_refines_scan_any_state (s : Rtcm) (hr : RtcmReach s) (hb : s.hasBuf = true) (data : Bytes) :
    (onData s data).cbs = rtcmExpected s.cap (s.pending ++ data) := by
  rw [C14_expected_eq_scan]
  exact (onData_spec data ((inv_reach hr).coh hb)).cbs

/-- Without a buffer (default-constructed, or the capacity was refused) nothing is ever dispatched. -/
theorem C14_no_buffer_no_dispatch (s : Rtcm) (hb : s.hasBuf = false) (data : Bytes) :
    onData s data = ⟨s, 0, []⟩ :=
  onData_of_noBuf (by simp [hb]) data

/-! ### Return value, counter -/

/-- In every reachable state `OnData` returns the total size of the messages it dispatched in that call. -/
theorem C14_return_value (s : Rtcm) (hr : RtcmReach s) (data : Bytes) :
    (onData s data).ret = ((onData s data).cbs.map fun c => c.frame.length).sum := by
  by_cases hb : s.hasBuf = true
  · have H := onData_spec data ((inv_reach hr).coh hb)
    rw [H.ret, H.cbs, cbs_frames_len, Nat.zero_add]
  · rw [onData_of_noBuf hb]; rfl

/-- **C14, count.** In every reachable state, an `OnData` call advances `decoded_msg_count_` by the number
of callbacks it made (the counter is a `uint32_t`). -/
theorem C14_count_step (s : Rtcm) (hr : RtcmReach s) (data : Bytes) :
    (onData s data).s.decoded = (s.decoded + (onData s data).cbs.length) % 4294967296 := by
  by_cases hb : s.hasBuf = true
  · have H := onData_spec data ((inv_reach hr).coh hb)
    rw [H.dec, H.cbs, List.length_map]; rfl
  · rw [onData_of_noBuf hb]
    have := (inv_reach hr).dec
    simp only [List.length_nil, Nat.add_zero]
    exact (Nat.mod_eq_of_lt this).symm

/-- Hence `GetNumDecodedMessages()` is the number of callbacks since the last `Reset()`
(modulo 2³², the width of the counter), for any sequence of `OnData` calls. -/
theorem C14_count_eq_callbacks (s : Rtcm) (hr : RtcmReach s) (chunks : List Bytes) :
    (rtcmFeed s.reset chunks).1.decoded = (rtcmFeed s.reset chunks).2.2.length % 4294967296 := by
  obtain ⟨e1, e2, _⟩ := rtcmFeed_flatten s.reset chunks
  rw [e1, e2, C14_count_step s.reset (.call .reset hr)]
  show (0 + _) % _ = _
  rw [Nat.zero_add]

/-! ### Memory safety of the model -/

/-- **C14, safety.** In every reachable state no index `≥ capacity_bytes_` has been read or written
(the model records every `buffer_[i]`, `memmove` and CRC range in `fault`), the buffer has at least
3 bytes, `next_byte_index_` is within it, and while a frame is being collected its announced size fits
the buffer and the format (`≤ 1029`, so the `int32_t` casts are exact). -/
theorem C14_rtcm_safe (s : Rtcm) (hr : RtcmReach s) :
    s.fault = false ∧
      (s.hasBuf = true →
        s.buf.length = s.cap ∧ 3 ≤ s.cap ∧ s.next ≤ s.cap ∧
        (s.state = .sync → s.next = 0) ∧ (s.state = .header → s.next = 1 ∨ s.next = 2) ∧
        (s.state = .data → 3 ≤ s.next ∧ s.next < s.cur ∧ s.cur ≤ s.cap ∧ s.cur ≤ 1029)) := by
  have hi := inv_reach hr
  refine ⟨hi.nofault, fun hb => ?_⟩
  have hP := hi.coh hb
  generalize s.buf.take s.next = P at hP
  have hl := hP.lt_cap
  have hn := hP.next
  have hst := hP.st
  have := rtcmPayloadLen_le P
  refine ⟨hP.base.len, hP.base.cap3, by omega, ?_, ?_, ?_⟩ <;> intro h <;> rw [h] at hst
  · rw [hn, show P = [] from hst]; rfl
  · have := hst.1; omega
  · obtain ⟨h1, h2, h3, _, h5⟩ := hst; omega

/-- The flag is sticky: an out-of-bounds access is never forgotten by a later operation, so
`fault = false` in a state means that no access on the way there was out of bounds. -/
theorem C14_fault_sticky (s : Rtcm) (op : RtcmOp) (h : s.fault = true) : (s.apply op).fault = true := by
  cases op with
  | onData d => exact ((Mono.refl s).onData d).fault h
  | reset => exact h
  | warnOnError e => exact h
  | setBuffer b c a f => exact (setBuffer_fault s b c a f).trans h

/-- The arithmetic of `SetBuffer`: a caller buffer of `c ≥ 6` bytes at any address leaves at least
`c - 3 ≥ 3` usable bytes after 4-byte alignment, and the aligned region lies inside the caller's
`[addr, addr + c)`. -/
theorem C14_setBuffer_capacity (s : Rtcm) (addr c allocAddr : Nat) (fill : Nat → Byte) (h6 : 6 ≤ c)
    (hc : c ≤ 0x7FFFFFFF) :
    (s.setBuffer (some addr) c allocAddr fill).hasBuf = true ∧
      (s.setBuffer (some addr) c allocAddr fill).cap = c - (alignUp4 addr - addr) ∧
      alignUp4 addr % 4 = 0 ∧ addr ≤ alignUp4 addr ∧
      alignUp4 addr + (s.setBuffer (some addr) c allocAddr fill).cap = addr + c ∧
      3 ≤ (s.setBuffer (some addr) c allocAddr fill).cap := by
  have e : s.setBuffer (some addr) c allocAddr fill = s.clearManaged.install addr c fill := by
    unfold Rtcm.setBuffer clampCapacity; rw [if_neg (by omega), if_neg (by omega)]
  have ha := alignUp4_bounds addr
  have hr := aligned_region ha.1 ha.2.1 h6
  rw [e]
  exact ⟨rfl, rfl, ha.2.2, ha.1, hr.2, hr.1⟩

/-! ### The statements are not vacuous -/

/-- An 8-byte stream holding a stray preamble, a junk byte and the empty frame `D3 00 00 47 EA 4B`,
fed bytewise to a framer with a caller buffer of 9 bytes at an odd address (6 usable bytes): the false
candidate `D3 11 D3` is rejected, `Resync` finds the second preamble, one callback, returns 0,…,0,6. -/
example : (Rtcm.construct (some 1) 9 0 (fun _ => 0)).hasBuf = true ∧
    (Rtcm.construct (some 1) 9 0 (fun _ => 0)).cap = 6 := by decide

#guard (rtcmFeed (Rtcm.construct (some 1) 9 0 (fun _ => 0))
      [[0xD3], [0x11], [0xD3], [0x00], [0x00], [0x47], [0xEA], [0x4B]]).2 ==
    ([0, 0, 0, 0, 0, 0, 0, 6], [⟨1150, [0xD3, 0x00, 0x00, 0x47, 0xEA, 0x4B]⟩])

#guard ((cfgRtcm 6).run [0xD3, 0x11, 0xD3, 0x00, 0x00, 0x47, 0xEA, 0x4B] 0).msgs == [(2, 6)]

/-- The reachable-state hypotheses are inhabited by states that hold a candidate. -/
example : RtcmReach ((Rtcm.construct none 64 4096 (fun _ => 0)).apply (.onData [0xD3, 0x00])) :=
  .call _ (.construct _ _ _ _)

end FeVerif
