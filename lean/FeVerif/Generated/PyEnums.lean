/- GENERATED by tools/c17_extract.py from the working tree of the repository - do not edit.
   Every IntEnum subclass of fusion_engine_client with its members in definition order (names as code points),
   the mask classes made by enum_bitmask, and the per-class facts the C17 theorems take as hypotheses,
   re-decided by the kernel on every regeneration. -/
import FeVerif.Model.DynEnum

namespace FeVerif.PyEnums

/-- fusion_engine_client.analysis.data_loader.TimeAlignmentMode -/
def e0 : PyEnum := ⟨"fusion_engine_client.analysis.data_loader.TimeAlignmentMode", 0, [
  ([78, 79, 78, 69], 0),   -- NONE = 0
  ([68, 82, 79, 80], 1),   -- DROP = 1
  ([73, 78, 83, 69, 82, 84], 2)   -- INSERT = 2
  ]⟩
/-- 3 names, 3 members -/
theorem e0_members : membersAre e0.defn [([78, 79, 78, 69], 0), ([68, 82, 79, 80], 1), ([73, 78, 83, 69, 82, 84], 2)] = true := by decide +kernel

/-- fusion_engine_client.messages.configuration.AppliedSpeedType -/
def e1 : PyEnum := ⟨"fusion_engine_client.messages.configuration.AppliedSpeedType", 8, [
  ([78, 79, 78, 69], 0),   -- NONE = 0
  ([82, 69, 65, 82, 95, 87, 72, 69, 69, 76, 83], 1),   -- REAR_WHEELS = 1
  ([70, 82, 79, 78, 84, 95, 87, 72, 69, 69, 76, 83], 2),   -- FRONT_WHEELS = 2
  ([70, 82, 79, 78, 84, 95, 65, 78, 68, 95, 82, 69, 65, 82, 95, 87, 72, 69, 69, 76, 83], 3),   -- FRONT_AND_REAR_WHEELS = 3
  ([86, 69, 72, 73, 67, 76, 69, 95, 66, 79, 68, 89], 4)   -- VEHICLE_BODY = 4
  ]⟩
/-- 5 names, 5 members -/
theorem e1_members : membersAre e1.defn [([78, 79, 78, 69], 0), ([82, 69, 65, 82, 95, 87, 72, 69, 69, 76, 83], 1), ([70, 82, 79, 78, 84, 95, 87, 72, 69, 69, 76, 83], 2), ([70, 82, 79, 78, 84, 95, 65, 78, 68, 95, 82, 69, 65, 82, 95, 87, 72, 69, 69, 76, 83], 3), ([86, 69, 72, 73, 67, 76, 69, 95, 66, 79, 68, 89], 4)] = true := by decide +kernel

/-- fusion_engine_client.messages.configuration.ConfigType -/
def e2 : PyEnum := ⟨"fusion_engine_client.messages.configuration.ConfigType", 16, [
  ([73, 78, 86, 65, 76, 73, 68], 0),   -- INVALID = 0
  ([68, 69, 86, 73, 67, 69, 95, 76, 69, 86, 69, 82, 95, 65, 82, 77], 16),   -- DEVICE_LEVER_ARM = 16
  ([68, 69, 86, 73, 67, 69, 95, 67, 79, 65, 82, 83, 69, 95, 79, 82, 73, 69, 78, 84, 65, 84, 73, 79, 78], 17),   -- DEVICE_COARSE_ORIENTATION = 17
  ([71, 78, 83, 83, 95, 76, 69, 86, 69, 82, 95, 65, 82, 77], 18),   -- GNSS_LEVER_ARM = 18
  ([79, 85, 84, 80, 85, 84, 95, 76, 69, 86, 69, 82, 95, 65, 82, 77], 19),   -- OUTPUT_LEVER_ARM = 19
  ([86, 69, 72, 73, 67, 76, 69, 95, 68, 69, 84, 65, 73, 76, 83], 20),   -- VEHICLE_DETAILS = 20
  ([87, 72, 69, 69, 76, 95, 67, 79, 78, 70, 73, 71], 21),   -- WHEEL_CONFIG = 21
  ([72, 65, 82, 68, 87, 65, 82, 69, 95, 84, 73, 67, 75, 95, 67, 79, 78, 70, 73, 71], 22),   -- HARDWARE_TICK_CONFIG = 22
  ([68, 69, 80, 82, 69, 67, 65, 84, 69, 68, 95, 72, 69, 65, 68, 73, 78, 71, 95, 66, 73, 65, 83], 23),   -- DEPRECATED_HEADING_BIAS = 23
  ([71, 78, 83, 83, 95, 65, 85, 88, 95, 76, 69, 86, 69, 82, 95, 65, 82, 77], 24),   -- GNSS_AUX_LEVER_ARM = 24
  ([69, 78, 65, 66, 76, 69, 68, 95, 71, 78, 83, 83, 95, 83, 89, 83, 84, 69, 77, 83], 50),   -- ENABLED_GNSS_SYSTEMS = 50
  ([69, 78, 65, 66, 76, 69, 68, 95, 71, 78, 83, 83, 95, 70, 82, 69, 81, 85, 69, 78, 67, 89, 95, 66, 65, 78, 68, 83], 51),   -- ENABLED_GNSS_FREQUENCY_BANDS = 51
  ([76, 69, 65, 80, 95, 83, 69, 67, 79, 78, 68], 52),   -- LEAP_SECOND = 52
  ([71, 80, 83, 95, 87, 69, 69, 75, 95, 82, 79, 76, 76, 79, 86, 69, 82], 53),   -- GPS_WEEK_ROLLOVER = 53
  ([73, 79, 78, 79, 83, 80, 72, 69, 82, 69, 95, 67, 79, 78, 70, 73, 71], 54),   -- IONOSPHERE_CONFIG = 54
  ([84, 82, 79, 80, 79, 83, 80, 72, 69, 82, 69, 95, 67, 79, 78, 70, 73, 71], 55),   -- TROPOSPHERE_CONFIG = 55
  ([73, 78, 84, 69, 82, 70, 65, 67, 69, 95, 67, 79, 78, 70, 73, 71], 200),   -- INTERFACE_CONFIG = 200
  ([85, 65, 82, 84, 49, 95, 66, 65, 85, 68], 256),   -- UART1_BAUD = 256
  ([85, 65, 82, 84, 50, 95, 66, 65, 85, 68], 257),   -- UART2_BAUD = 257
  ([85, 65, 82, 84, 49, 95, 79, 85, 84, 80, 85, 84, 95, 68, 73, 65, 71, 78, 79, 83, 84, 73, 67, 83, 95, 77, 69, 83, 83, 65, 71, 69, 83], 258),   -- UART1_OUTPUT_DIAGNOSTICS_MESSAGES = 258
  ([85, 65, 82, 84, 50, 95, 79, 85, 84, 80, 85, 84, 95, 68, 73, 65, 71, 78, 79, 83, 84, 73, 67, 83, 95, 77, 69, 83, 83, 65, 71, 69, 83], 259),   -- UART2_OUTPUT_DIAGNOSTICS_MESSAGES = 259
  ([69, 78, 65, 66, 76, 69, 95, 87, 65, 84, 67, 72, 68, 79, 71, 95, 84, 73, 77, 69, 82], 300),   -- ENABLE_WATCHDOG_TIMER = 300
  ([85, 83, 69, 82, 95, 68, 69, 86, 73, 67, 69, 95, 73, 68], 301),   -- USER_DEVICE_ID = 301
  ([80, 82, 79, 70, 73, 76, 73, 78, 71, 95, 77, 65, 83, 75], 310),   -- PROFILING_MASK = 310
  ([76, 66, 65, 78, 68, 95, 80, 65, 82, 65, 77, 69, 84, 69, 82, 83], 1024)   -- LBAND_PARAMETERS = 1024
  ]⟩
/-- 25 names, 25 members -/
theorem e2_members : membersAre e2.defn [([73, 78, 86, 65, 76, 73, 68], 0), ([68, 69, 86, 73, 67, 69, 95, 76, 69, 86, 69, 82, 95, 65, 82, 77], 16), ([68, 69, 86, 73, 67, 69, 95, 67, 79, 65, 82, 83, 69, 95, 79, 82, 73, 69, 78, 84, 65, 84, 73, 79, 78], 17), ([71, 78, 83, 83, 95, 76, 69, 86, 69, 82, 95, 65, 82, 77], 18), ([79, 85, 84, 80, 85, 84, 95, 76, 69, 86, 69, 82, 95, 65, 82, 77], 19), ([86, 69, 72, 73, 67, 76, 69, 95, 68, 69, 84, 65, 73, 76, 83], 20), ([87, 72, 69, 69, 76, 95, 67, 79, 78, 70, 73, 71], 21), ([72, 65, 82, 68, 87, 65, 82, 69, 95, 84, 73, 67, 75, 95, 67, 79, 78, 70, 73, 71], 22), ([68, 69, 80, 82, 69, 67, 65, 84, 69, 68, 95, 72, 69, 65, 68, 73, 78, 71, 95, 66, 73, 65, 83], 23), ([71, 78, 83, 83, 95, 65, 85, 88, 95, 76, 69, 86, 69, 82, 95, 65, 82, 77], 24), ([69, 78, 65, 66, 76, 69, 68, 95, 71, 78, 83, 83, 95, 83, 89, 83, 84, 69, 77, 83], 50), ([69, 78, 65, 66, 76, 69, 68, 95, 71, 78, 83, 83, 95, 70, 82, 69, 81, 85, 69, 78, 67, 89, 95, 66, 65, 78, 68, 83], 51), ([76, 69, 65, 80, 95, 83, 69, 67, 79, 78, 68], 52), ([71, 80, 83, 95, 87, 69, 69, 75, 95, 82, 79, 76, 76, 79, 86, 69, 82], 53), ([73, 79, 78, 79, 83, 80, 72, 69, 82, 69, 95, 67, 79, 78, 70, 73, 71], 54), ([84, 82, 79, 80, 79, 83, 80, 72, 69, 82, 69, 95, 67, 79, 78, 70, 73, 71], 55), ([73, 78, 84, 69, 82, 70, 65, 67, 69, 95, 67, 79, 78, 70, 73, 71], 200), ([85, 65, 82, 84, 49, 95, 66, 65, 85, 68], 256), ([85, 65, 82, 84, 50, 95, 66, 65, 85, 68], 257), ([85, 65, 82, 84, 49, 95, 79, 85, 84, 80, 85, 84, 95, 68, 73, 65, 71, 78, 79, 83, 84, 73, 67, 83, 95, 77, 69, 83, 83, 65, 71, 69, 83], 258), ([85, 65, 82, 84, 50, 95, 79, 85, 84, 80, 85, 84, 95, 68, 73, 65, 71, 78, 79, 83, 84, 73, 67, 83, 95, 77, 69, 83, 83, 65, 71, 69, 83], 259), ([69, 78, 65, 66, 76, 69, 95, 87, 65, 84, 67, 72, 68, 79, 71, 95, 84, 73, 77, 69, 82], 300), ([85, 83, 69, 82, 95, 68, 69, 86, 73, 67, 69, 95, 73, 68], 301), ([80, 82, 79, 70, 73, 76, 73, 78, 71, 95, 77, 65, 83, 75], 310), ([76, 66, 65, 78, 68, 95, 80, 65, 82, 65, 77, 69, 84, 69, 82, 83], 1024)] = true := by decide +kernel

/-- fusion_engine_client.messages.configuration.ConfigurationSource -/
def e3 : PyEnum := ⟨"fusion_engine_client.messages.configuration.ConfigurationSource", 8, [
  ([65, 67, 84, 73, 86, 69], 0),   -- ACTIVE = 0
  ([83, 65, 86, 69, 68], 1),   -- SAVED = 1
  ([68, 69, 70, 65, 85, 76, 84], 2)   -- DEFAULT = 2
  ]⟩
/-- 3 names, 3 members -/
theorem e3_members : membersAre e3.defn [([65, 67, 84, 73, 86, 69], 0), ([83, 65, 86, 69, 68], 1), ([68, 69, 70, 65, 85, 76, 84], 2)] = true := by decide +kernel

/-- fusion_engine_client.messages.configuration.DataType -/
def e4 : PyEnum := ⟨"fusion_engine_client.messages.configuration.DataType", 8, [
  ([67, 65, 76, 73, 66, 82, 65, 84, 73, 79, 78, 95, 83, 84, 65, 84, 69], 0),   -- CALIBRATION_STATE = 0
  ([67, 82, 65, 83, 72, 95, 76, 79, 71], 1),   -- CRASH_LOG = 1
  ([70, 73, 76, 84, 69, 82, 95, 83, 84, 65, 84, 69], 2),   -- FILTER_STATE = 2
  ([85, 83, 69, 82, 95, 67, 79, 78, 70, 73, 71], 3),   -- USER_CONFIG = 3
  ([73, 78, 86, 65, 76, 73, 68], 255)   -- INVALID = 255
  ]⟩
/-- 5 names, 5 members -/
theorem e4_members : membersAre e4.defn [([67, 65, 76, 73, 66, 82, 65, 84, 73, 79, 78, 95, 83, 84, 65, 84, 69], 0), ([67, 82, 65, 83, 72, 95, 76, 79, 71], 1), ([70, 73, 76, 84, 69, 82, 95, 83, 84, 65, 84, 69], 2), ([85, 83, 69, 82, 95, 67, 79, 78, 70, 73, 71], 3), ([73, 78, 86, 65, 76, 73, 68], 255)] = true := by decide +kernel

/-- fusion_engine_client.messages.configuration.Direction -/
def e5 : PyEnum := ⟨"fusion_engine_client.messages.configuration.Direction", 8, [
  ([70, 79, 82, 87, 65, 82, 68], 0),   -- FORWARD = 0
  ([66, 65, 67, 75, 87, 65, 82, 68], 1),   -- BACKWARD = 1
  ([76, 69, 70, 84], 2),   -- LEFT = 2
  ([82, 73, 71, 72, 84], 3),   -- RIGHT = 3
  ([85, 80], 4),   -- UP = 4
  ([68, 79, 87, 78], 5),   -- DOWN = 5
  ([73, 78, 86, 65, 76, 73, 68], 255)   -- INVALID = 255
  ]⟩
/-- 7 names, 7 members -/
theorem e5_members : membersAre e5.defn [([70, 79, 82, 87, 65, 82, 68], 0), ([66, 65, 67, 75, 87, 65, 82, 68], 1), ([76, 69, 70, 84], 2), ([82, 73, 71, 72, 84], 3), ([85, 80], 4), ([68, 79, 87, 78], 5), ([73, 78, 86, 65, 76, 73, 68], 255)] = true := by decide +kernel

/-- fusion_engine_client.messages.configuration.InterfaceConfigType -/
def e6 : PyEnum := ⟨"fusion_engine_client.messages.configuration.InterfaceConfigType", 8, [
  ([73, 78, 86, 65, 76, 73, 68], 0),   -- INVALID = 0
  ([79, 85, 84, 80, 85, 84, 95, 68, 73, 65, 71, 78, 79, 83, 84, 73, 67, 83, 95, 77, 69, 83, 83, 65, 71, 69, 83], 1),   -- OUTPUT_DIAGNOSTICS_MESSAGES = 1
  ([66, 65, 85, 68, 95, 82, 65, 84, 69], 2),   -- BAUD_RATE = 2
  ([82, 69, 77, 79, 84, 69, 95, 65, 68, 68, 82, 69, 83, 83], 3),   -- REMOTE_ADDRESS = 3
  ([80, 79, 82, 84], 4),   -- PORT = 4
  ([69, 78, 65, 66, 76, 69, 68], 5),   -- ENABLED = 5
  ([68, 73, 82, 69, 67, 84, 73, 79, 78], 6),   -- DIRECTION = 6
  ([83, 79, 67, 75, 69, 84, 95, 84, 89, 80, 69], 7)   -- SOCKET_TYPE = 7
  ]⟩
/-- 8 names, 8 members -/
theorem e6_members : membersAre e6.defn [([73, 78, 86, 65, 76, 73, 68], 0), ([79, 85, 84, 80, 85, 84, 95, 68, 73, 65, 71, 78, 79, 83, 84, 73, 67, 83, 95, 77, 69, 83, 83, 65, 71, 69, 83], 1), ([66, 65, 85, 68, 95, 82, 65, 84, 69], 2), ([82, 69, 77, 79, 84, 69, 95, 65, 68, 68, 82, 69, 83, 83], 3), ([80, 79, 82, 84], 4), ([69, 78, 65, 66, 76, 69, 68], 5), ([68, 73, 82, 69, 67, 84, 73, 79, 78], 6), ([83, 79, 67, 75, 69, 84, 95, 84, 89, 80, 69], 7)] = true := by decide +kernel

/-- fusion_engine_client.messages.configuration.IonoDelayModel -/
def e7 : PyEnum := ⟨"fusion_engine_client.messages.configuration.IonoDelayModel", 8, [
  ([65, 85, 84, 79], 0),   -- AUTO = 0
  ([79, 70, 70], 1),   -- OFF = 1
  ([75, 76, 79, 66, 85, 67, 72, 65, 82], 2),   -- KLOBUCHAR = 2
  ([83, 66, 65, 83], 3)   -- SBAS = 3
  ]⟩
/-- 4 names, 4 members -/
theorem e7_members : membersAre e7.defn [([65, 85, 84, 79], 0), ([79, 70, 70], 1), ([75, 76, 79, 66, 85, 67, 72, 65, 82], 2), ([83, 66, 65, 83], 3)] = true := by decide +kernel

/-- fusion_engine_client.messages.configuration.MessageRate -/
def e8 : PyEnum := ⟨"fusion_engine_client.messages.configuration.MessageRate", 8, [
  ([79, 70, 70], 0),   -- OFF = 0
  ([79, 78, 95, 67, 72, 65, 78, 71, 69], 1),   -- ON_CHANGE = 1
  ([77, 65, 88, 95, 82, 65, 84, 69], 1),   -- MAX_RATE = 1
  ([73, 78, 84, 69, 82, 86, 65, 76, 95, 49, 48, 95, 77, 83], 2),   -- INTERVAL_10_MS = 2
  ([73, 78, 84, 69, 82, 86, 65, 76, 95, 50, 48, 95, 77, 83], 3),   -- INTERVAL_20_MS = 3
  ([73, 78, 84, 69, 82, 86, 65, 76, 95, 52, 48, 95, 77, 83], 4),   -- INTERVAL_40_MS = 4
  ([73, 78, 84, 69, 82, 86, 65, 76, 95, 53, 48, 95, 77, 83], 5),   -- INTERVAL_50_MS = 5
  ([73, 78, 84, 69, 82, 86, 65, 76, 95, 49, 48, 48, 95, 77, 83], 6),   -- INTERVAL_100_MS = 6
  ([73, 78, 84, 69, 82, 86, 65, 76, 95, 50, 48, 48, 95, 77, 83], 7),   -- INTERVAL_200_MS = 7
  ([73, 78, 84, 69, 82, 86, 65, 76, 95, 53, 48, 48, 95, 77, 83], 8),   -- INTERVAL_500_MS = 8
  ([73, 78, 84, 69, 82, 86, 65, 76, 95, 49, 95, 83], 9),   -- INTERVAL_1_S = 9
  ([73, 78, 84, 69, 82, 86, 65, 76, 95, 50, 95, 83], 10),   -- INTERVAL_2_S = 10
  ([73, 78, 84, 69, 82, 86, 65, 76, 95, 53, 95, 83], 11),   -- INTERVAL_5_S = 11
  ([73, 78, 84, 69, 82, 86, 65, 76, 95, 49, 48, 95, 83], 12),   -- INTERVAL_10_S = 12
  ([73, 78, 84, 69, 82, 86, 65, 76, 95, 51, 48, 95, 83], 13),   -- INTERVAL_30_S = 13
  ([73, 78, 84, 69, 82, 86, 65, 76, 95, 54, 48, 95, 83], 14),   -- INTERVAL_60_S = 14
  ([68, 69, 70, 65, 85, 76, 84], 255)   -- DEFAULT = 255
  ]⟩
/-- 17 names, 16 members; MAX_RATE is an alias of ON_CHANGE -/
theorem e8_members : membersAre e8.defn [([79, 70, 70], 0), ([79, 78, 95, 67, 72, 65, 78, 71, 69], 1), ([73, 78, 84, 69, 82, 86, 65, 76, 95, 49, 48, 95, 77, 83], 2), ([73, 78, 84, 69, 82, 86, 65, 76, 95, 50, 48, 95, 77, 83], 3), ([73, 78, 84, 69, 82, 86, 65, 76, 95, 52, 48, 95, 77, 83], 4), ([73, 78, 84, 69, 82, 86, 65, 76, 95, 53, 48, 95, 77, 83], 5), ([73, 78, 84, 69, 82, 86, 65, 76, 95, 49, 48, 48, 95, 77, 83], 6), ([73, 78, 84, 69, 82, 86, 65, 76, 95, 50, 48, 48, 95, 77, 83], 7), ([73, 78, 84, 69, 82, 86, 65, 76, 95, 53, 48, 48, 95, 77, 83], 8), ([73, 78, 84, 69, 82, 86, 65, 76, 95, 49, 95, 83], 9), ([73, 78, 84, 69, 82, 86, 65, 76, 95, 50, 95, 83], 10), ([73, 78, 84, 69, 82, 86, 65, 76, 95, 53, 95, 83], 11), ([73, 78, 84, 69, 82, 86, 65, 76, 95, 49, 48, 95, 83], 12), ([73, 78, 84, 69, 82, 86, 65, 76, 95, 51, 48, 95, 83], 13), ([73, 78, 84, 69, 82, 86, 65, 76, 95, 54, 48, 95, 83], 14), ([68, 69, 70, 65, 85, 76, 84], 255)] = true := by decide +kernel

/-- fusion_engine_client.messages.configuration.NmeaMessageType -/
def e9 : PyEnum := ⟨"fusion_engine_client.messages.configuration.NmeaMessageType", 16, [
  ([73, 78, 86, 65, 76, 73, 68], 0),   -- INVALID = 0
  ([71, 71, 65], 1),   -- GGA = 1
  ([71, 76, 76], 2),   -- GLL = 2
  ([71, 83, 65], 3),   -- GSA = 3
  ([71, 83, 86], 4),   -- GSV = 4
  ([82, 77, 67], 5),   -- RMC = 5
  ([86, 84, 71], 6),   -- VTG = 6
  ([90, 68, 65], 7),   -- ZDA = 7
  ([80, 49, 67, 65, 76, 83, 84, 65, 84, 85, 83], 1000),   -- P1CALSTATUS = 1000
  ([80, 49, 77, 83, 71], 1001),   -- P1MSG = 1001
  ([80, 81, 84, 77, 86, 69, 82, 78, 79], 1200),   -- PQTMVERNO = 1200
  ([80, 81, 84, 77, 86, 69, 82], 1201),   -- PQTMVER = 1201
  ([80, 81, 84, 77, 71, 78, 83, 83], 1202),   -- PQTMGNSS = 1202
  ([80, 81, 84, 77, 86, 69, 82, 78, 79, 95, 83, 85, 66], 1203),   -- PQTMVERNO_SUB = 1203
  ([80, 81, 84, 77, 86, 69, 82, 95, 83, 85, 66], 1204),   -- PQTMVER_SUB = 1204
  ([80, 81, 84, 77, 84, 88, 84], 1205)   -- PQTMTXT = 1205
  ]⟩
/-- 16 names, 16 members -/
theorem e9_members : membersAre e9.defn [([73, 78, 86, 65, 76, 73, 68], 0), ([71, 71, 65], 1), ([71, 76, 76], 2), ([71, 83, 65], 3), ([71, 83, 86], 4), ([82, 77, 67], 5), ([86, 84, 71], 6), ([90, 68, 65], 7), ([80, 49, 67, 65, 76, 83, 84, 65, 84, 85, 83], 1000), ([80, 49, 77, 83, 71], 1001), ([80, 81, 84, 77, 86, 69, 82, 78, 79], 1200), ([80, 81, 84, 77, 86, 69, 82], 1201), ([80, 81, 84, 77, 71, 78, 83, 83], 1202), ([80, 81, 84, 77, 86, 69, 82, 78, 79, 95, 83, 85, 66], 1203), ([80, 81, 84, 77, 86, 69, 82, 95, 83, 85, 66], 1204), ([80, 81, 84, 77, 84, 88, 84], 1205)] = true := by decide +kernel

/-- fusion_engine_client.messages.configuration.ProtocolType -/
def e10 : PyEnum := ⟨"fusion_engine_client.messages.configuration.ProtocolType", 8, [
  ([73, 78, 86, 65, 76, 73, 68], 0),   -- INVALID = 0
  ([70, 85, 83, 73, 79, 78, 95, 69, 78, 71, 73, 78, 69], 1),   -- FUSION_ENGINE = 1
  ([78, 77, 69, 65], 2),   -- NMEA = 2
  ([82, 84, 67, 77], 3),   -- RTCM = 3
  ([65, 76, 76], 255)   -- ALL = 255
  ]⟩
/-- 5 names, 5 members -/
theorem e10_members : membersAre e10.defn [([73, 78, 86, 65, 76, 73, 68], 0), ([70, 85, 83, 73, 79, 78, 95, 69, 78, 71, 73, 78, 69], 1), ([78, 77, 69, 65], 2), ([82, 84, 67, 77], 3), ([65, 76, 76], 255)] = true := by decide +kernel

/-- fusion_engine_client.messages.configuration.SaveAction -/
def e11 : PyEnum := ⟨"fusion_engine_client.messages.configuration.SaveAction", 8, [
  ([83, 65, 86, 69], 0),   -- SAVE = 0
  ([82, 69, 86, 69, 82, 84, 95, 84, 79, 95, 83, 65, 86, 69, 68], 1),   -- REVERT_TO_SAVED = 1
  ([82, 69, 86, 69, 82, 84, 95, 84, 79, 95, 68, 69, 70, 65, 85, 76, 84], 2)   -- REVERT_TO_DEFAULT = 2
  ]⟩
/-- 3 names, 3 members -/
theorem e11_members : membersAre e11.defn [([83, 65, 86, 69], 0), ([82, 69, 86, 69, 82, 84, 95, 84, 79, 95, 83, 65, 86, 69, 68], 1), ([82, 69, 86, 69, 82, 84, 95, 84, 79, 95, 68, 69, 70, 65, 85, 76, 84], 2)] = true := by decide +kernel

/-- fusion_engine_client.messages.configuration.SocketType -/
def e12 : PyEnum := ⟨"fusion_engine_client.messages.configuration.SocketType", 8, [
  ([73, 78, 86, 65, 76, 73, 68], 0),   -- INVALID = 0
  ([83, 84, 82, 69, 65, 77], 1),   -- STREAM = 1
  ([68, 65, 84, 65, 71, 82, 65, 77], 2),   -- DATAGRAM = 2
  ([83, 69, 81, 80, 65, 67, 75, 69, 84], 3)   -- SEQPACKET = 3
  ]⟩
/-- 4 names, 4 members -/
theorem e12_members : membersAre e12.defn [([73, 78, 86, 65, 76, 73, 68], 0), ([83, 84, 82, 69, 65, 77], 1), ([68, 65, 84, 65, 71, 82, 65, 77], 2), ([83, 69, 81, 80, 65, 67, 75, 69, 84], 3)] = true := by decide +kernel

/-- fusion_engine_client.messages.configuration.SteeringType -/
def e13 : PyEnum := ⟨"fusion_engine_client.messages.configuration.SteeringType", 8, [
  ([85, 78, 75, 78, 79, 87, 78], 0),   -- UNKNOWN = 0
  ([70, 82, 79, 78, 84], 1),   -- FRONT = 1
  ([70, 82, 79, 78, 84, 95, 65, 78, 68, 95, 82, 69, 65, 82], 2)   -- FRONT_AND_REAR = 2
  ]⟩
/-- 3 names, 3 members -/
theorem e13_members : membersAre e13.defn [([85, 78, 75, 78, 79, 87, 78], 0), ([70, 82, 79, 78, 84], 1), ([70, 82, 79, 78, 84, 95, 65, 78, 68, 95, 82, 69, 65, 82], 2)] = true := by decide +kernel

/-- fusion_engine_client.messages.configuration.TickDirection -/
def e14 : PyEnum := ⟨"fusion_engine_client.messages.configuration.TickDirection", 8, [
  ([79, 70, 70], 0),   -- OFF = 0
  ([70, 79, 82, 87, 65, 82, 68, 95, 65, 67, 84, 73, 86, 69, 95, 72, 73, 71, 72], 1),   -- FORWARD_ACTIVE_HIGH = 1
  ([70, 79, 82, 87, 65, 82, 68, 95, 65, 67, 84, 73, 86, 69, 95, 76, 79, 87], 2)   -- FORWARD_ACTIVE_LOW = 2
  ]⟩
/-- 3 names, 3 members -/
theorem e14_members : membersAre e14.defn [([79, 70, 70], 0), ([70, 79, 82, 87, 65, 82, 68, 95, 65, 67, 84, 73, 86, 69, 95, 72, 73, 71, 72], 1), ([70, 79, 82, 87, 65, 82, 68, 95, 65, 67, 84, 73, 86, 69, 95, 76, 79, 87], 2)] = true := by decide +kernel

/-- fusion_engine_client.messages.configuration.TickMode -/
def e15 : PyEnum := ⟨"fusion_engine_client.messages.configuration.TickMode", 8, [
  ([79, 70, 70], 0),   -- OFF = 0
  ([82, 73, 83, 73, 78, 71, 95, 69, 68, 71, 69], 1),   -- RISING_EDGE = 1
  ([70, 65, 76, 76, 73, 78, 71, 95, 69, 68, 71, 69], 2)   -- FALLING_EDGE = 2
  ]⟩
/-- 3 names, 3 members -/
theorem e15_members : membersAre e15.defn [([79, 70, 70], 0), ([82, 73, 83, 73, 78, 71, 95, 69, 68, 71, 69], 1), ([70, 65, 76, 76, 73, 78, 71, 95, 69, 68, 71, 69], 2)] = true := by decide +kernel

/-- fusion_engine_client.messages.configuration.TransportDirection -/
def e16 : PyEnum := ⟨"fusion_engine_client.messages.configuration.TransportDirection", 8, [
  ([73, 78, 86, 65, 76, 73, 68], 0),   -- INVALID = 0
  ([83, 69, 82, 86, 69, 82], 1),   -- SERVER = 1
  ([67, 76, 73, 69, 78, 84], 2)   -- CLIENT = 2
  ]⟩
/-- 3 names, 3 members -/
theorem e16_members : membersAre e16.defn [([73, 78, 86, 65, 76, 73, 68], 0), ([83, 69, 82, 86, 69, 82], 1), ([67, 76, 73, 69, 78, 84], 2)] = true := by decide +kernel

/-- fusion_engine_client.messages.configuration.TransportType -/
def e17 : PyEnum := ⟨"fusion_engine_client.messages.configuration.TransportType", 8, [
  ([73, 78, 86, 65, 76, 73, 68], 0),   -- INVALID = 0
  ([83, 69, 82, 73, 65, 76], 1),   -- SERIAL = 1
  ([70, 73, 76, 69], 2),   -- FILE = 2
  ([84, 67, 80], 4),   -- TCP = 4
  ([85, 68, 80], 5),   -- UDP = 5
  ([87, 69, 66, 83, 79, 67, 75, 69, 84], 7),   -- WEBSOCKET = 7
  ([85, 78, 73, 88], 8),   -- UNIX = 8
  ([67, 85, 82, 82, 69, 78, 84], 254),   -- CURRENT = 254
  ([65, 76, 76], 255)   -- ALL = 255
  ]⟩
/-- 9 names, 9 members -/
theorem e17_members : membersAre e17.defn [([73, 78, 86, 65, 76, 73, 68], 0), ([83, 69, 82, 73, 65, 76], 1), ([70, 73, 76, 69], 2), ([84, 67, 80], 4), ([85, 68, 80], 5), ([87, 69, 66, 83, 79, 67, 75, 69, 84], 7), ([85, 78, 73, 88], 8), ([67, 85, 82, 82, 69, 78, 84], 254), ([65, 76, 76], 255)] = true := by decide +kernel

/-- fusion_engine_client.messages.configuration.TropoDelayModel -/
def e18 : PyEnum := ⟨"fusion_engine_client.messages.configuration.TropoDelayModel", 8, [
  ([65, 85, 84, 79], 0),   -- AUTO = 0
  ([79, 70, 70], 1),   -- OFF = 1
  ([83, 65, 65, 83, 84, 65, 77, 79, 73, 78, 69, 78], 2)   -- SAASTAMOINEN = 2
  ]⟩
/-- 3 names, 3 members -/
theorem e18_members : membersAre e18.defn [([65, 85, 84, 79], 0), ([79, 70, 70], 1), ([83, 65, 65, 83, 84, 65, 77, 79, 73, 78, 69, 78], 2)] = true := by decide +kernel

/-- fusion_engine_client.messages.configuration.UpdateAction -/
def e19 : PyEnum := ⟨"fusion_engine_client.messages.configuration.UpdateAction", 0, [
  ([82, 69, 80, 76, 65, 67, 69], 0)   -- REPLACE = 0
  ]⟩
/-- 1 names, 1 members -/
theorem e19_members : membersAre e19.defn [([82, 69, 80, 76, 65, 67, 69], 0)] = true := by decide +kernel

/-- fusion_engine_client.messages.configuration.VehicleModel -/
def e20 : PyEnum := ⟨"fusion_engine_client.messages.configuration.VehicleModel", 16, [
  ([85, 78, 75, 78, 79, 87, 78, 95, 86, 69, 72, 73, 67, 76, 69], 0),   -- UNKNOWN_VEHICLE = 0
  ([68, 65, 84, 65, 83, 80, 69, 69, 68, 95, 67, 68, 52], 1),   -- DATASPEED_CD4 = 1
  ([74, 49, 57, 51, 57], 2),   -- J1939 = 2
  ([76, 69, 88, 85, 83, 95, 67, 84, 50, 48, 48, 72], 20),   -- LEXUS_CT200H = 20
  ([75, 73, 65, 95, 83, 79, 82, 69, 78, 84, 79], 40),   -- KIA_SORENTO = 40
  ([75, 73, 65, 95, 83, 80, 79, 82, 84, 65, 71, 69], 41),   -- KIA_SPORTAGE = 41
  ([65, 85, 68, 73, 95, 81, 55], 60),   -- AUDI_Q7 = 60
  ([65, 85, 68, 73, 95, 65, 56, 76], 61),   -- AUDI_A8L = 61
  ([84, 69, 83, 76, 65, 95, 77, 79, 68, 69, 76, 95, 88], 80),   -- TESLA_MODEL_X = 80
  ([84, 69, 83, 76, 65, 95, 77, 79, 68, 69, 76, 95, 51], 81),   -- TESLA_MODEL_3 = 81
  ([72, 89, 85, 78, 68, 65, 73, 95, 69, 76, 65, 78, 84, 82, 65], 100),   -- HYUNDAI_ELANTRA = 100
  ([80, 69, 85, 71, 69, 79, 84, 95, 50, 48, 54], 120),   -- PEUGEOT_206 = 120
  ([77, 65, 78, 95, 84, 71, 88], 140),   -- MAN_TGX = 140
  ([70, 65, 67, 84, 73, 79, 78], 160),   -- FACTION = 160
  ([70, 65, 67, 84, 73, 79, 78, 95, 86, 50], 161),   -- FACTION_V2 = 161
  ([76, 73, 78, 67, 79, 76, 78, 95, 77, 75, 90], 180),   -- LINCOLN_MKZ = 180
  ([66, 77, 87, 95, 55], 200),   -- BMW_7 = 200
  ([66, 77, 87, 95, 77, 79, 84, 79, 82, 82, 65, 68], 201),   -- BMW_MOTORRAD = 201
  ([86, 87, 95, 52], 220),   -- VW_4 = 220
  ([82, 73, 86, 73, 65, 78], 240),   -- RIVIAN = 240
  ([70, 76, 69, 88, 82, 65, 89, 95, 68, 69, 86, 73, 67, 69, 95, 65, 85, 68, 73, 95, 69, 84, 82, 79, 78], 260)   -- FLEXRAY_DEVICE_AUDI_ETRON = 260
  ]⟩
/-- 21 names, 21 members -/
theorem e20_members : membersAre e20.defn [([85, 78, 75, 78, 79, 87, 78, 95, 86, 69, 72, 73, 67, 76, 69], 0), ([68, 65, 84, 65, 83, 80, 69, 69, 68, 95, 67, 68, 52], 1), ([74, 49, 57, 51, 57], 2), ([76, 69, 88, 85, 83, 95, 67, 84, 50, 48, 48, 72], 20), ([75, 73, 65, 95, 83, 79, 82, 69, 78, 84, 79], 40), ([75, 73, 65, 95, 83, 80, 79, 82, 84, 65, 71, 69], 41), ([65, 85, 68, 73, 95, 81, 55], 60), ([65, 85, 68, 73, 95, 65, 56, 76], 61), ([84, 69, 83, 76, 65, 95, 77, 79, 68, 69, 76, 95, 88], 80), ([84, 69, 83, 76, 65, 95, 77, 79, 68, 69, 76, 95, 51], 81), ([72, 89, 85, 78, 68, 65, 73, 95, 69, 76, 65, 78, 84, 82, 65], 100), ([80, 69, 85, 71, 69, 79, 84, 95, 50, 48, 54], 120), ([77, 65, 78, 95, 84, 71, 88], 140), ([70, 65, 67, 84, 73, 79, 78], 160), ([70, 65, 67, 84, 73, 79, 78, 95, 86, 50], 161), ([76, 73, 78, 67, 79, 76, 78, 95, 77, 75, 90], 180), ([66, 77, 87, 95, 55], 200), ([66, 77, 87, 95, 77, 79, 84, 79, 82, 82, 65, 68], 201), ([86, 87, 95, 52], 220), ([82, 73, 86, 73, 65, 78], 240), ([70, 76, 69, 88, 82, 65, 89, 95, 68, 69, 86, 73, 67, 69, 95, 65, 85, 68, 73, 95, 69, 84, 82, 79, 78], 260)] = true := by decide +kernel

/-- fusion_engine_client.messages.configuration.WheelSensorType -/
def e21 : PyEnum := ⟨"fusion_engine_client.messages.configuration.WheelSensorType", 8, [
  ([78, 79, 78, 69], 0),   -- NONE = 0
  ([84, 73, 67, 75, 83], 2),   -- TICKS = 2
  ([87, 72, 69, 69, 76, 95, 83, 80, 69, 69, 68], 3),   -- WHEEL_SPEED = 3
  ([86, 69, 72, 73, 67, 76, 69, 95, 83, 80, 69, 69, 68], 4),   -- VEHICLE_SPEED = 4
  ([86, 69, 72, 73, 67, 76, 69, 95, 84, 73, 67, 75, 83], 5)   -- VEHICLE_TICKS = 5
  ]⟩
/-- 5 names, 5 members -/
theorem e21_members : membersAre e21.defn [([78, 79, 78, 69], 0), ([84, 73, 67, 75, 83], 2), ([87, 72, 69, 69, 76, 95, 83, 80, 69, 69, 68], 3), ([86, 69, 72, 73, 67, 76, 69, 95, 83, 80, 69, 69, 68], 4), ([86, 69, 72, 73, 67, 76, 69, 95, 84, 73, 67, 75, 83], 5)] = true := by decide +kernel

/-- fusion_engine_client.messages.defs.MessageType -/
def e22 : PyEnum := ⟨"fusion_engine_client.messages.defs.MessageType", 16, [
  ([73, 78, 86, 65, 76, 73, 68], 0),   -- INVALID = 0
  ([80, 79, 83, 69], 10000),   -- POSE = 10000
  ([71, 78, 83, 83, 95, 73, 78, 70, 79], 10001),   -- GNSS_INFO = 10001
  ([71, 78, 83, 83, 95, 83, 65, 84, 69, 76, 76, 73, 84, 69], 10002),   -- GNSS_SATELLITE = 10002
  ([80, 79, 83, 69, 95, 65, 85, 88], 10003),   -- POSE_AUX = 10003
  ([67, 65, 76, 73, 66, 82, 65, 84, 73, 79, 78, 95, 83, 84, 65, 84, 85, 83], 10004),   -- CALIBRATION_STATUS = 10004
  ([82, 69, 76, 65, 84, 73, 86, 69, 95, 69, 78, 85, 95, 80, 79, 83, 73, 84, 73, 79, 78], 10005),   -- RELATIVE_ENU_POSITION = 10005
  ([83, 89, 83, 84, 69, 77, 95, 83, 84, 65, 84, 85, 83], 10500),   -- SYSTEM_STATUS = 10500
  ([73, 77, 85, 95, 79, 85, 84, 80, 85, 84], 11000),   -- IMU_OUTPUT = 11000
  ([68, 69, 80, 82, 69, 67, 65, 84, 69, 68, 95, 82, 65, 87, 95, 72, 69, 65, 68, 73, 78, 71, 95, 79, 85, 84, 80, 85, 84], 11001),   -- DEPRECATED_RAW_HEADING_OUTPUT = 11001
  ([82, 65, 87, 95, 73, 77, 85, 95, 79, 85, 84, 80, 85, 84], 11002),   -- RAW_IMU_OUTPUT = 11002
  ([68, 69, 80, 82, 69, 67, 65, 84, 69, 68, 95, 72, 69, 65, 68, 73, 78, 71, 95, 79, 85, 84, 80, 85, 84], 11003),   -- DEPRECATED_HEADING_OUTPUT = 11003
  ([73, 77, 85, 95, 73, 78, 80, 85, 84], 11004),   -- IMU_INPUT = 11004
  ([71, 78, 83, 83, 95, 65, 84, 84, 73, 84, 85, 68, 69, 95, 79, 85, 84, 80, 85, 84], 11005),   -- GNSS_ATTITUDE_OUTPUT = 11005
  ([82, 65, 87, 95, 71, 78, 83, 83, 95, 65, 84, 84, 73, 84, 85, 68, 69, 95, 79, 85, 84, 80, 85, 84], 11006),   -- RAW_GNSS_ATTITUDE_OUTPUT = 11006
  ([68, 69, 80, 82, 69, 67, 65, 84, 69, 68, 95, 87, 72, 69, 69, 76, 95, 83, 80, 69, 69, 68, 95, 77, 69, 65, 83, 85, 82, 69, 77, 69, 78, 84], 11101),   -- DEPRECATED_WHEEL_SPEED_MEASUREMENT = 11101
  ([68, 69, 80, 82, 69, 67, 65, 84, 69, 68, 95, 86, 69, 72, 73, 67, 76, 69, 95, 83, 80, 69, 69, 68, 95, 77, 69, 65, 83, 85, 82, 69, 77, 69, 78, 84], 11102),   -- DEPRECATED_VEHICLE_SPEED_MEASUREMENT = 11102
  ([87, 72, 69, 69, 76, 95, 84, 73, 67, 75, 95, 73, 78, 80, 85, 84], 11103),   -- WHEEL_TICK_INPUT = 11103
  ([86, 69, 72, 73, 67, 76, 69, 95, 84, 73, 67, 75, 95, 73, 78, 80, 85, 84], 11104),   -- VEHICLE_TICK_INPUT = 11104
  ([87, 72, 69, 69, 76, 95, 83, 80, 69, 69, 68, 95, 73, 78, 80, 85, 84], 11105),   -- WHEEL_SPEED_INPUT = 11105
  ([86, 69, 72, 73, 67, 76, 69, 95, 83, 80, 69, 69, 68, 95, 73, 78, 80, 85, 84], 11106),   -- VEHICLE_SPEED_INPUT = 11106
  ([82, 65, 87, 95, 87, 72, 69, 69, 76, 95, 84, 73, 67, 75, 95, 79, 85, 84, 80, 85, 84], 11123),   -- RAW_WHEEL_TICK_OUTPUT = 11123
  ([82, 65, 87, 95, 86, 69, 72, 73, 67, 76, 69, 95, 84, 73, 67, 75, 95, 79, 85, 84, 80, 85, 84], 11124),   -- RAW_VEHICLE_TICK_OUTPUT = 11124
  ([82, 65, 87, 95, 87, 72, 69, 69, 76, 95, 83, 80, 69, 69, 68, 95, 79, 85, 84, 80, 85, 84], 11125),   -- RAW_WHEEL_SPEED_OUTPUT = 11125
  ([82, 65, 87, 95, 86, 69, 72, 73, 67, 76, 69, 95, 83, 80, 69, 69, 68, 95, 79, 85, 84, 80, 85, 84], 11126),   -- RAW_VEHICLE_SPEED_OUTPUT = 11126
  ([87, 72, 69, 69, 76, 95, 83, 80, 69, 69, 68, 95, 79, 85, 84, 80, 85, 84], 11135),   -- WHEEL_SPEED_OUTPUT = 11135
  ([86, 69, 72, 73, 67, 76, 69, 95, 83, 80, 69, 69, 68, 95, 79, 85, 84, 80, 85, 84], 11136),   -- VEHICLE_SPEED_OUTPUT = 11136
  ([82, 79, 83, 95, 80, 79, 83, 69], 12000),   -- ROS_POSE = 12000
  ([82, 79, 83, 95, 71, 80, 83, 95, 70, 73, 88], 12010),   -- ROS_GPS_FIX = 12010
  ([82, 79, 83, 95, 73, 77, 85], 12011),   -- ROS_IMU = 12011
  ([67, 79, 77, 77, 65, 78, 68, 95, 82, 69, 83, 80, 79, 78, 83, 69], 13000),   -- COMMAND_RESPONSE = 13000
  ([77, 69, 83, 83, 65, 71, 69, 95, 82, 69, 81, 85, 69, 83, 84], 13001),   -- MESSAGE_REQUEST = 13001
  ([82, 69, 83, 69, 84, 95, 82, 69, 81, 85, 69, 83, 84], 13002),   -- RESET_REQUEST = 13002
  ([86, 69, 82, 83, 73, 79, 78, 95, 73, 78, 70, 79], 13003),   -- VERSION_INFO = 13003
  ([69, 86, 69, 78, 84, 95, 78, 79, 84, 73, 70, 73, 67, 65, 84, 73, 79, 78], 13004),   -- EVENT_NOTIFICATION = 13004
  ([83, 72, 85, 84, 68, 79, 87, 78, 95, 82, 69, 81, 85, 69, 83, 84], 13005),   -- SHUTDOWN_REQUEST = 13005
  ([70, 65, 85, 76, 84, 95, 67, 79, 78, 84, 82, 79, 76], 13006),   -- FAULT_CONTROL = 13006
  ([68, 69, 86, 73, 67, 69, 95, 73, 68], 13007),   -- DEVICE_ID = 13007
  ([83, 84, 65, 82, 84, 85, 80, 95, 82, 69, 81, 85, 69, 83, 84], 13008),   -- STARTUP_REQUEST = 13008
  ([83, 69, 84, 95, 67, 79, 78, 70, 73, 71], 13100),   -- SET_CONFIG = 13100
  ([71, 69, 84, 95, 67, 79, 78, 70, 73, 71], 13101),   -- GET_CONFIG = 13101
  ([83, 65, 86, 69, 95, 67, 79, 78, 70, 73, 71], 13102),   -- SAVE_CONFIG = 13102
  ([67, 79, 78, 70, 73, 71, 95, 82, 69, 83, 80, 79, 78, 83, 69], 13103),   -- CONFIG_RESPONSE = 13103
  ([73, 77, 80, 79, 82, 84, 95, 68, 65, 84, 65], 13110),   -- IMPORT_DATA = 13110
  ([69, 88, 80, 79, 82, 84, 95, 68, 65, 84, 65], 13111),   -- EXPORT_DATA = 13111
  ([80, 76, 65, 84, 70, 79, 82, 77, 95, 83, 84, 79, 82, 65, 71, 69, 95, 68, 65, 84, 65], 13113),   -- PLATFORM_STORAGE_DATA = 13113
  ([73, 78, 80, 85, 84, 95, 68, 65, 84, 65, 95, 87, 82, 65, 80, 80, 69, 82], 13120),   -- INPUT_DATA_WRAPPER = 13120
  ([83, 69, 84, 95, 77, 69, 83, 83, 65, 71, 69, 95, 82, 65, 84, 69], 13220),   -- SET_MESSAGE_RATE = 13220
  ([71, 69, 84, 95, 77, 69, 83, 83, 65, 71, 69, 95, 82, 65, 84, 69], 13221),   -- GET_MESSAGE_RATE = 13221
  ([77, 69, 83, 83, 65, 71, 69, 95, 82, 65, 84, 69, 95, 82, 69, 83, 80, 79, 78, 83, 69], 13222),   -- MESSAGE_RATE_RESPONSE = 13222
  ([83, 85, 80, 80, 79, 82, 84, 69, 68, 95, 73, 79, 95, 73, 78, 84, 69, 82, 70, 65, 67, 69, 83], 13223),   -- SUPPORTED_IO_INTERFACES = 13223
  ([76, 66, 65, 78, 68, 95, 70, 82, 65, 77, 69], 14000),   -- LBAND_FRAME = 14000
  ([83, 84, 65, 53, 54, 51, 53, 95, 67, 79, 77, 77, 65, 78, 68], 14100),   -- STA5635_COMMAND = 14100
  ([83, 84, 65, 53, 54, 51, 53, 95, 67, 79, 77, 77, 65, 78, 68, 95, 82, 69, 83, 80, 79, 78, 83, 69], 14101),   -- STA5635_COMMAND_RESPONSE = 14101
  ([83, 84, 65, 53, 54, 51, 53, 95, 73, 81, 95, 68, 65, 84, 65], 14102),   -- STA5635_IQ_DATA = 14102
  ([82, 69, 83, 69, 82, 86, 69, 68], 20000)   -- RESERVED = 20000
  ]⟩
/-- 56 names, 56 members -/
theorem e22_members : membersAre e22.defn [([73, 78, 86, 65, 76, 73, 68], 0), ([80, 79, 83, 69], 10000), ([71, 78, 83, 83, 95, 73, 78, 70, 79], 10001), ([71, 78, 83, 83, 95, 83, 65, 84, 69, 76, 76, 73, 84, 69], 10002), ([80, 79, 83, 69, 95, 65, 85, 88], 10003), ([67, 65, 76, 73, 66, 82, 65, 84, 73, 79, 78, 95, 83, 84, 65, 84, 85, 83], 10004), ([82, 69, 76, 65, 84, 73, 86, 69, 95, 69, 78, 85, 95, 80, 79, 83, 73, 84, 73, 79, 78], 10005), ([83, 89, 83, 84, 69, 77, 95, 83, 84, 65, 84, 85, 83], 10500), ([73, 77, 85, 95, 79, 85, 84, 80, 85, 84], 11000), ([68, 69, 80, 82, 69, 67, 65, 84, 69, 68, 95, 82, 65, 87, 95, 72, 69, 65, 68, 73, 78, 71, 95, 79, 85, 84, 80, 85, 84], 11001), ([82, 65, 87, 95, 73, 77, 85, 95, 79, 85, 84, 80, 85, 84], 11002), ([68, 69, 80, 82, 69, 67, 65, 84, 69, 68, 95, 72, 69, 65, 68, 73, 78, 71, 95, 79, 85, 84, 80, 85, 84], 11003), ([73, 77, 85, 95, 73, 78, 80, 85, 84], 11004), ([71, 78, 83, 83, 95, 65, 84, 84, 73, 84, 85, 68, 69, 95, 79, 85, 84, 80, 85, 84], 11005), ([82, 65, 87, 95, 71, 78, 83, 83, 95, 65, 84, 84, 73, 84, 85, 68, 69, 95, 79, 85, 84, 80, 85, 84], 11006), ([68, 69, 80, 82, 69, 67, 65, 84, 69, 68, 95, 87, 72, 69, 69, 76, 95, 83, 80, 69, 69, 68, 95, 77, 69, 65, 83, 85, 82, 69, 77, 69, 78, 84], 11101), ([68, 69, 80, 82, 69, 67, 65, 84, 69, 68, 95, 86, 69, 72, 73, 67, 76, 69, 95, 83, 80, 69, 69, 68, 95, 77, 69, 65, 83, 85, 82, 69, 77, 69, 78, 84], 11102), ([87, 72, 69, 69, 76, 95, 84, 73, 67, 75, 95, 73, 78, 80, 85, 84], 11103), ([86, 69, 72, 73, 67, 76, 69, 95, 84, 73, 67, 75, 95, 73, 78, 80, 85, 84], 11104), ([87, 72, 69, 69, 76, 95, 83, 80, 69, 69, 68, 95, 73, 78, 80, 85, 84], 11105), ([86, 69, 72, 73, 67, 76, 69, 95, 83, 80, 69, 69, 68, 95, 73, 78, 80, 85, 84], 11106), ([82, 65, 87, 95, 87, 72, 69, 69, 76, 95, 84, 73, 67, 75, 95, 79, 85, 84, 80, 85, 84], 11123), ([82, 65, 87, 95, 86, 69, 72, 73, 67, 76, 69, 95, 84, 73, 67, 75, 95, 79, 85, 84, 80, 85, 84], 11124), ([82, 65, 87, 95, 87, 72, 69, 69, 76, 95, 83, 80, 69, 69, 68, 95, 79, 85, 84, 80, 85, 84], 11125), ([82, 65, 87, 95, 86, 69, 72, 73, 67, 76, 69, 95, 83, 80, 69, 69, 68, 95, 79, 85, 84, 80, 85, 84], 11126), ([87, 72, 69, 69, 76, 95, 83, 80, 69, 69, 68, 95, 79, 85, 84, 80, 85, 84], 11135), ([86, 69, 72, 73, 67, 76, 69, 95, 83, 80, 69, 69, 68, 95, 79, 85, 84, 80, 85, 84], 11136), ([82, 79, 83, 95, 80, 79, 83, 69], 12000), ([82, 79, 83, 95, 71, 80, 83, 95, 70, 73, 88], 12010), ([82, 79, 83, 95, 73, 77, 85], 12011), ([67, 79, 77, 77, 65, 78, 68, 95, 82, 69, 83, 80, 79, 78, 83, 69], 13000), ([77, 69, 83, 83, 65, 71, 69, 95, 82, 69, 81, 85, 69, 83, 84], 13001), ([82, 69, 83, 69, 84, 95, 82, 69, 81, 85, 69, 83, 84], 13002), ([86, 69, 82, 83, 73, 79, 78, 95, 73, 78, 70, 79], 13003), ([69, 86, 69, 78, 84, 95, 78, 79, 84, 73, 70, 73, 67, 65, 84, 73, 79, 78], 13004), ([83, 72, 85, 84, 68, 79, 87, 78, 95, 82, 69, 81, 85, 69, 83, 84], 13005), ([70, 65, 85, 76, 84, 95, 67, 79, 78, 84, 82, 79, 76], 13006), ([68, 69, 86, 73, 67, 69, 95, 73, 68], 13007), ([83, 84, 65, 82, 84, 85, 80, 95, 82, 69, 81, 85, 69, 83, 84], 13008), ([83, 69, 84, 95, 67, 79, 78, 70, 73, 71], 13100), ([71, 69, 84, 95, 67, 79, 78, 70, 73, 71], 13101), ([83, 65, 86, 69, 95, 67, 79, 78, 70, 73, 71], 13102), ([67, 79, 78, 70, 73, 71, 95, 82, 69, 83, 80, 79, 78, 83, 69], 13103), ([73, 77, 80, 79, 82, 84, 95, 68, 65, 84, 65], 13110), ([69, 88, 80, 79, 82, 84, 95, 68, 65, 84, 65], 13111), ([80, 76, 65, 84, 70, 79, 82, 77, 95, 83, 84, 79, 82, 65, 71, 69, 95, 68, 65, 84, 65], 13113), ([73, 78, 80, 85, 84, 95, 68, 65, 84, 65, 95, 87, 82, 65, 80, 80, 69, 82], 13120), ([83, 69, 84, 95, 77, 69, 83, 83, 65, 71, 69, 95, 82, 65, 84, 69], 13220), ([71, 69, 84, 95, 77, 69, 83, 83, 65, 71, 69, 95, 82, 65, 84, 69], 13221), ([77, 69, 83, 83, 65, 71, 69, 95, 82, 65, 84, 69, 95, 82, 69, 83, 80, 79, 78, 83, 69], 13222), ([83, 85, 80, 80, 79, 82, 84, 69, 68, 95, 73, 79, 95, 73, 78, 84, 69, 82, 70, 65, 67, 69, 83], 13223), ([76, 66, 65, 78, 68, 95, 70, 82, 65, 77, 69], 14000), ([83, 84, 65, 53, 54, 51, 53, 95, 67, 79, 77, 77, 65, 78, 68], 14100), ([83, 84, 65, 53, 54, 51, 53, 95, 67, 79, 77, 77, 65, 78, 68, 95, 82, 69, 83, 80, 79, 78, 83, 69], 14101), ([83, 84, 65, 53, 54, 51, 53, 95, 73, 81, 95, 68, 65, 84, 65], 14102), ([82, 69, 83, 69, 82, 86, 69, 68], 20000)] = true := by decide +kernel

/-- fusion_engine_client.messages.defs.Response -/
def e23 : PyEnum := ⟨"fusion_engine_client.messages.defs.Response", 8, [
  ([79, 75], 0),   -- OK = 0
  ([85, 78, 83, 85, 80, 80, 79, 82, 84, 69, 68, 95, 67, 77, 68, 95, 86, 69, 82, 83, 73, 79, 78], 1),   -- UNSUPPORTED_CMD_VERSION = 1
  ([85, 78, 83, 85, 80, 80, 79, 82, 84, 69, 68, 95, 70, 69, 65, 84, 85, 82, 69], 2),   -- UNSUPPORTED_FEATURE = 2
  ([86, 65, 76, 85, 69, 95, 69, 82, 82, 79, 82], 3),   -- VALUE_ERROR = 3
  ([73, 78, 83, 85, 70, 70, 73, 67, 73, 69, 78, 84, 95, 83, 80, 65, 67, 69], 4),   -- INSUFFICIENT_SPACE = 4
  ([69, 88, 69, 67, 85, 84, 73, 79, 78, 95, 70, 65, 73, 76, 85, 82, 69], 5),   -- EXECUTION_FAILURE = 5
  ([73, 78, 67, 79, 78, 83, 73, 83, 84, 69, 78, 84, 95, 80, 65, 89, 76, 79, 65, 68, 95, 76, 69, 78, 71, 84, 72], 6),   -- INCONSISTENT_PAYLOAD_LENGTH = 6
  ([68, 65, 84, 65, 95, 67, 79, 82, 82, 85, 80, 84, 69, 68], 7),   -- DATA_CORRUPTED = 7
  ([78, 79, 95, 68, 65, 84, 65, 95, 83, 84, 79, 82, 69, 68], 8),   -- NO_DATA_STORED = 8
  ([85, 78, 65, 86, 65, 73, 76, 65, 66, 76, 69], 9),   -- UNAVAILABLE = 9
  ([85, 78, 83, 85, 80, 80, 79, 82, 84, 69, 68, 95, 73, 78, 84, 69, 82, 70, 65, 67, 69], 10)   -- UNSUPPORTED_INTERFACE = 10
  ]⟩
/-- 11 names, 11 members -/
theorem e23_members : membersAre e23.defn [([79, 75], 0), ([85, 78, 83, 85, 80, 80, 79, 82, 84, 69, 68, 95, 67, 77, 68, 95, 86, 69, 82, 83, 73, 79, 78], 1), ([85, 78, 83, 85, 80, 80, 79, 82, 84, 69, 68, 95, 70, 69, 65, 84, 85, 82, 69], 2), ([86, 65, 76, 85, 69, 95, 69, 82, 82, 79, 82], 3), ([73, 78, 83, 85, 70, 70, 73, 67, 73, 69, 78, 84, 95, 83, 80, 65, 67, 69], 4), ([69, 88, 69, 67, 85, 84, 73, 79, 78, 95, 70, 65, 73, 76, 85, 82, 69], 5), ([73, 78, 67, 79, 78, 83, 73, 83, 84, 69, 78, 84, 95, 80, 65, 89, 76, 79, 65, 68, 95, 76, 69, 78, 71, 84, 72], 6), ([68, 65, 84, 65, 95, 67, 79, 82, 82, 85, 80, 84, 69, 68], 7), ([78, 79, 95, 68, 65, 84, 65, 95, 83, 84, 79, 82, 69, 68], 8), ([85, 78, 65, 86, 65, 73, 76, 65, 66, 76, 69], 9), ([85, 78, 83, 85, 80, 80, 79, 82, 84, 69, 68, 95, 73, 78, 84, 69, 82, 70, 65, 67, 69], 10)] = true := by decide +kernel

/-- fusion_engine_client.messages.defs.SolutionType -/
def e24 : PyEnum := ⟨"fusion_engine_client.messages.defs.SolutionType", 8, [
  ([73, 110, 118, 97, 108, 105, 100], 0),   -- Invalid = 0
  ([65, 117, 116, 111, 110, 111, 109, 111, 117, 115, 71, 80, 83], 1),   -- AutonomousGPS = 1
  ([68, 71, 80, 83], 2),   -- DGPS = 2
  ([82, 84, 75, 70, 105, 120, 101, 100], 4),   -- RTKFixed = 4
  ([82, 84, 75, 70, 108, 111, 97, 116], 5),   -- RTKFloat = 5
  ([73, 110, 116, 101, 103, 114, 97, 116, 101], 6),   -- Integrate = 6
  ([86, 105, 115, 117, 97, 108], 9),   -- Visual = 9
  ([80, 80, 80], 10)   -- PPP = 10
  ]⟩
/-- 8 names, 8 members -/
theorem e24_members : membersAre e24.defn [([73, 110, 118, 97, 108, 105, 100], 0), ([65, 117, 116, 111, 110, 111, 109, 111, 117, 115, 71, 80, 83], 1), ([68, 71, 80, 83], 2), ([82, 84, 75, 70, 105, 120, 101, 100], 4), ([82, 84, 75, 70, 108, 111, 97, 116], 5), ([73, 110, 116, 101, 103, 114, 97, 116, 101], 6), ([86, 105, 115, 117, 97, 108], 9), ([80, 80, 80], 10)] = true := by decide +kernel

/-- fusion_engine_client.messages.device.DeviceType -/
def e25 : PyEnum := ⟨"fusion_engine_client.messages.device.DeviceType", 8, [
  ([85, 78, 75, 78, 79, 87, 78], 0),   -- UNKNOWN = 0
  ([65, 84, 76, 65, 83], 1),   -- ATLAS = 1
  ([76, 71, 54, 57, 84, 95, 65, 77], 2),   -- LG69T_AM = 2
  ([76, 71, 54, 57, 84, 95, 65, 80], 3),   -- LG69T_AP = 3
  ([76, 71, 54, 57, 84, 95, 65, 72], 4),   -- LG69T_AH = 4
  ([78, 69, 88, 65, 82, 95, 66, 69, 65, 77, 50, 75], 5),   -- NEXAR_BEAM2K = 5
  ([83, 83, 82, 95, 76, 71, 54, 57, 84], 6),   -- SSR_LG69T = 6
  ([83, 83, 82, 95, 68, 69, 83, 75, 84, 79, 80], 7)   -- SSR_DESKTOP = 7
  ]⟩
/-- 8 names, 8 members -/
theorem e25_members : membersAre e25.defn [([85, 78, 75, 78, 79, 87, 78], 0), ([65, 84, 76, 65, 83], 1), ([76, 71, 54, 57, 84, 95, 65, 77], 2), ([76, 71, 54, 57, 84, 95, 65, 80], 3), ([76, 71, 54, 57, 84, 95, 65, 72], 4), ([78, 69, 88, 65, 82, 95, 66, 69, 65, 77, 50, 75], 5), ([83, 83, 82, 95, 76, 71, 54, 57, 84], 6), ([83, 83, 82, 95, 68, 69, 83, 75, 84, 79, 80], 7)] = true := by decide +kernel

/-- fusion_engine_client.messages.device.EventType -/
def e26 : PyEnum := ⟨"fusion_engine_client.messages.device.EventType", 8, [
  ([76, 79, 71], 0),   -- LOG = 0
  ([82, 69, 83, 69, 84], 1),   -- RESET = 1
  ([67, 79, 78, 70, 73, 71, 95, 67, 72, 65, 78, 71, 69], 2),   -- CONFIG_CHANGE = 2
  ([67, 79, 77, 77, 65, 78, 68], 3),   -- COMMAND = 3
  ([67, 79, 77, 77, 65, 78, 68, 95, 82, 69, 83, 80, 79, 78, 83, 69], 4)   -- COMMAND_RESPONSE = 4
  ]⟩
/-- 5 names, 5 members -/
theorem e26_members : membersAre e26.defn [([76, 79, 71], 0), ([82, 69, 83, 69, 84], 1), ([67, 79, 78, 70, 73, 71, 95, 67, 72, 65, 78, 71, 69], 2), ([67, 79, 77, 77, 65, 78, 68], 3), ([67, 79, 77, 77, 65, 78, 68, 95, 82, 69, 83, 80, 79, 78, 83, 69], 4)] = true := by decide +kernel

/-- fusion_engine_client.messages.fault_control.CoComType -/
def e27 : PyEnum := ⟨"fusion_engine_client.messages.fault_control.CoComType", 8, [
  ([78, 79, 78, 69], 0),   -- NONE = 0
  ([65, 67, 67, 69, 76, 69, 82, 65, 84, 73, 79, 78], 1),   -- ACCELERATION = 1
  ([83, 80, 69, 69, 68], 2),   -- SPEED = 2
  ([65, 76, 84, 73, 84, 85, 68, 69], 3)   -- ALTITUDE = 3
  ]⟩
/-- 4 names, 4 members -/
theorem e27_members : membersAre e27.defn [([78, 79, 78, 69], 0), ([65, 67, 67, 69, 76, 69, 82, 65, 84, 73, 79, 78], 1), ([83, 80, 69, 69, 68], 2), ([65, 76, 84, 73, 84, 85, 68, 69], 3)] = true := by decide +kernel

/-- fusion_engine_client.messages.fault_control.FaultType -/
def e28 : PyEnum := ⟨"fusion_engine_client.messages.fault_control.FaultType", 8, [
  ([67, 76, 69, 65, 82, 95, 65, 76, 76], 0),   -- CLEAR_ALL = 0
  ([67, 82, 65, 83, 72], 1),   -- CRASH = 1
  ([70, 65, 84, 65, 76, 95, 69, 82, 82, 79, 82], 2),   -- FATAL_ERROR = 2
  ([67, 79, 67, 79, 77], 3),   -- COCOM = 3
  ([69, 78, 65, 66, 76, 69, 95, 71, 78, 83, 83], 4),   -- ENABLE_GNSS = 4
  ([82, 69, 71, 73, 79, 78, 95, 66, 76, 65, 67, 75, 79, 85, 84], 5),   -- REGION_BLACKOUT = 5
  ([81, 85, 69, 67, 84, 69, 76, 95, 84, 69, 83, 84], 6),   -- QUECTEL_TEST = 6
  ([73, 78, 84, 69, 71, 82, 73, 84, 89, 95, 83, 84, 65, 84, 85, 83], 7)   -- INTEGRITY_STATUS = 7
  ]⟩
/-- 8 names, 8 members -/
theorem e28_members : membersAre e28.defn [([67, 76, 69, 65, 82, 95, 65, 76, 76], 0), ([67, 82, 65, 83, 72], 1), ([70, 65, 84, 65, 76, 95, 69, 82, 82, 79, 82], 2), ([67, 79, 67, 79, 77], 3), ([69, 78, 65, 66, 76, 69, 95, 71, 78, 83, 83], 4), ([82, 69, 71, 73, 79, 78, 95, 66, 76, 65, 67, 75, 79, 85, 84], 5), ([81, 85, 69, 67, 84, 69, 76, 95, 84, 69, 83, 84], 6), ([73, 78, 84, 69, 71, 82, 73, 84, 89, 95, 83, 84, 65, 84, 85, 83], 7)] = true := by decide +kernel

/-- fusion_engine_client.messages.measurement_details.SensorDataSource -/
def e29 : PyEnum := ⟨"fusion_engine_client.messages.measurement_details.SensorDataSource", 8, [
  ([85, 78, 75, 78, 79, 87, 78], 0),   -- UNKNOWN = 0
  ([73, 78, 84, 69, 82, 78, 65, 76], 1),   -- INTERNAL = 1
  ([72, 65, 82, 68, 87, 65, 82, 69, 95, 73, 79], 2),   -- HARDWARE_IO = 2
  ([67, 65, 78], 3),   -- CAN = 3
  ([83, 69, 82, 73, 65, 76], 4),   -- SERIAL = 4
  ([78, 69, 84, 87, 79, 82, 75], 5)   -- NETWORK = 5
  ]⟩
/-- 6 names, 6 members -/
theorem e29_members : membersAre e29.defn [([85, 78, 75, 78, 79, 87, 78], 0), ([73, 78, 84, 69, 82, 78, 65, 76], 1), ([72, 65, 82, 68, 87, 65, 82, 69, 95, 73, 79], 2), ([67, 65, 78], 3), ([83, 69, 82, 73, 65, 76], 4), ([78, 69, 84, 87, 79, 82, 75], 5)] = true := by decide +kernel

/-- fusion_engine_client.messages.measurement_details.SystemTimeSource -/
def e30 : PyEnum := ⟨"fusion_engine_client.messages.measurement_details.SystemTimeSource", 8, [
  ([73, 78, 86, 65, 76, 73, 68], 0),   -- INVALID = 0
  ([80, 49, 95, 84, 73, 77, 69], 1),   -- P1_TIME = 1
  ([84, 73, 77, 69, 83, 84, 65, 77, 80, 69, 68, 95, 79, 78, 95, 82, 69, 67, 69, 80, 84, 73, 79, 78], 2),   -- TIMESTAMPED_ON_RECEPTION = 2
  ([83, 69, 78, 68, 69, 82, 95, 83, 89, 83, 84, 69, 77, 95, 84, 73, 77, 69], 3),   -- SENDER_SYSTEM_TIME = 3
  ([71, 80, 83, 95, 84, 73, 77, 69], 4)   -- GPS_TIME = 4
  ]⟩
/-- 5 names, 5 members -/
theorem e30_members : membersAre e30.defn [([73, 78, 86, 65, 76, 73, 68], 0), ([80, 49, 95, 84, 73, 77, 69], 1), ([84, 73, 77, 69, 83, 84, 65, 77, 80, 69, 68, 95, 79, 78, 95, 82, 69, 67, 69, 80, 84, 73, 79, 78], 2), ([83, 69, 78, 68, 69, 82, 95, 83, 89, 83, 84, 69, 77, 95, 84, 73, 77, 69], 3), ([71, 80, 83, 95, 84, 73, 77, 69], 4)] = true := by decide +kernel

/-- fusion_engine_client.messages.measurements.GearType -/
def e31 : PyEnum := ⟨"fusion_engine_client.messages.measurements.GearType", 8, [
  ([85, 78, 75, 78, 79, 87, 78], 0),   -- UNKNOWN = 0
  ([70, 79, 82, 87, 65, 82, 68], 1),   -- FORWARD = 1
  ([82, 69, 86, 69, 82, 83, 69], 2),   -- REVERSE = 2
  ([80, 65, 82, 75], 3),   -- PARK = 3
  ([78, 69, 85, 84, 82, 65, 76], 4)   -- NEUTRAL = 4
  ]⟩
/-- 5 names, 5 members -/
theorem e31_members : membersAre e31.defn [([85, 78, 75, 78, 79, 87, 78], 0), ([70, 79, 82, 87, 65, 82, 68], 1), ([82, 69, 86, 69, 82, 83, 69], 2), ([80, 65, 82, 75], 3), ([78, 69, 85, 84, 82, 65, 76], 4)] = true := by decide +kernel

/-- fusion_engine_client.messages.ros.CovarianceType -/
def e32 : PyEnum := ⟨"fusion_engine_client.messages.ros.CovarianceType", 0, [
  ([67, 79, 86, 65, 82, 73, 65, 78, 67, 69, 95, 84, 89, 80, 69, 95, 85, 78, 75, 78, 79, 87, 78], 0),   -- COVARIANCE_TYPE_UNKNOWN = 0
  ([67, 79, 86, 65, 82, 73, 65, 78, 67, 69, 95, 84, 89, 80, 69, 95, 65, 80, 80, 82, 79, 88, 73, 77, 65, 84, 69, 68], 1),   -- COVARIANCE_TYPE_APPROXIMATED = 1
  ([67, 79, 86, 65, 82, 73, 65, 78, 67, 69, 95, 84, 89, 80, 69, 95, 68, 73, 65, 71, 79, 78, 65, 76, 95, 75, 78, 79, 87, 78], 2),   -- COVARIANCE_TYPE_DIAGONAL_KNOWN = 2
  ([67, 79, 86, 65, 82, 73, 65, 78, 67, 69, 95, 84, 89, 80, 69, 95, 75, 78, 79, 87, 78], 3)   -- COVARIANCE_TYPE_KNOWN = 3
  ]⟩
/-- 4 names, 4 members -/
theorem e32_members : membersAre e32.defn [([67, 79, 86, 65, 82, 73, 65, 78, 67, 69, 95, 84, 89, 80, 69, 95, 85, 78, 75, 78, 79, 87, 78], 0), ([67, 79, 86, 65, 82, 73, 65, 78, 67, 69, 95, 84, 89, 80, 69, 95, 65, 80, 80, 82, 79, 88, 73, 77, 65, 84, 69, 68], 1), ([67, 79, 86, 65, 82, 73, 65, 78, 67, 69, 95, 84, 89, 80, 69, 95, 68, 73, 65, 71, 79, 78, 65, 76, 95, 75, 78, 79, 87, 78], 2), ([67, 79, 86, 65, 82, 73, 65, 78, 67, 69, 95, 84, 89, 80, 69, 95, 75, 78, 79, 87, 78], 3)] = true := by decide +kernel

/-- fusion_engine_client.messages.signal_defs.FrequencyBand -/
def e33 : PyEnum := ⟨"fusion_engine_client.messages.signal_defs.FrequencyBand", 8, [
  ([85, 78, 75, 78, 79, 87, 78], 0),   -- UNKNOWN = 0
  ([76, 49], 1),   -- L1 = 1
  ([76, 50], 2),   -- L2 = 2
  ([76, 53], 5),   -- L5 = 5
  ([76, 54], 6)   -- L6 = 6
  ]⟩
/-- 5 names, 5 members -/
theorem e33_members : membersAre e33.defn [([85, 78, 75, 78, 79, 87, 78], 0), ([76, 49], 1), ([76, 50], 2), ([76, 53], 5), ([76, 54], 6)] = true := by decide +kernel

/-- fusion_engine_client.messages.signal_defs.FrequencyBandMask -/
def e34 : PyEnum := ⟨"fusion_engine_client.messages.signal_defs.FrequencyBandMask", 0, [
  ([65, 76, 76], 4294967295),   -- ALL = 4294967295
  ([76, 49], 2),   -- L1 = 2
  ([76, 50], 4),   -- L2 = 4
  ([76, 53], 32),   -- L5 = 32
  ([76, 54], 64),   -- L6 = 64
  ([85, 78, 75, 78, 79, 87, 78], 1)   -- UNKNOWN = 1
  ]⟩
/-- 6 names, 6 members -/
theorem e34_members : membersAre e34.defn [([65, 76, 76], 4294967295), ([76, 49], 2), ([76, 50], 4), ([76, 53], 32), ([76, 54], 64), ([85, 78, 75, 78, 79, 87, 78], 1)] = true := by decide +kernel

/-- fusion_engine_client.messages.signal_defs.SatelliteType -/
def e35 : PyEnum := ⟨"fusion_engine_client.messages.signal_defs.SatelliteType", 8, [
  ([85, 78, 75, 78, 79, 87, 78], 0),   -- UNKNOWN = 0
  ([71, 80, 83], 1),   -- GPS = 1
  ([71, 76, 79, 78, 65, 83, 83], 2),   -- GLONASS = 2
  ([76, 69, 79], 3),   -- LEO = 3
  ([71, 65, 76, 73, 76, 69, 79], 4),   -- GALILEO = 4
  ([66, 69, 73, 68, 79, 85], 5),   -- BEIDOU = 5
  ([81, 90, 83, 83], 6),   -- QZSS = 6
  ([77, 73, 88, 69, 68], 7),   -- MIXED = 7
  ([83, 66, 65, 83], 8),   -- SBAS = 8
  ([73, 82, 78, 83, 83], 9)   -- IRNSS = 9
  ]⟩
/-- 10 names, 10 members -/
theorem e35_members : membersAre e35.defn [([85, 78, 75, 78, 79, 87, 78], 0), ([71, 80, 83], 1), ([71, 76, 79, 78, 65, 83, 83], 2), ([76, 69, 79], 3), ([71, 65, 76, 73, 76, 69, 79], 4), ([66, 69, 73, 68, 79, 85], 5), ([81, 90, 83, 83], 6), ([77, 73, 88, 69, 68], 7), ([83, 66, 65, 83], 8), ([73, 82, 78, 83, 83], 9)] = true := by decide +kernel

/-- fusion_engine_client.messages.signal_defs.SatelliteTypeMask -/
def e36 : PyEnum := ⟨"fusion_engine_client.messages.signal_defs.SatelliteTypeMask", 0, [
  ([65, 76, 76], 4294967295),   -- ALL = 4294967295
  ([66, 69, 73, 68, 79, 85], 32),   -- BEIDOU = 32
  ([71, 65, 76, 73, 76, 69, 79], 16),   -- GALILEO = 16
  ([71, 76, 79, 78, 65, 83, 83], 4),   -- GLONASS = 4
  ([71, 80, 83], 2),   -- GPS = 2
  ([73, 82, 78, 83, 83], 512),   -- IRNSS = 512
  ([76, 69, 79], 8),   -- LEO = 8
  ([77, 73, 88, 69, 68], 128),   -- MIXED = 128
  ([81, 90, 83, 83], 64),   -- QZSS = 64
  ([83, 66, 65, 83], 256),   -- SBAS = 256
  ([85, 78, 75, 78, 79, 87, 78], 1)   -- UNKNOWN = 1
  ]⟩
/-- 11 names, 11 members -/
theorem e36_members : membersAre e36.defn [([65, 76, 76], 4294967295), ([66, 69, 73, 68, 79, 85], 32), ([71, 65, 76, 73, 76, 69, 79], 16), ([71, 76, 79, 78, 65, 83, 83], 4), ([71, 80, 83], 2), ([73, 82, 78, 83, 83], 512), ([76, 69, 79], 8), ([77, 73, 88, 69, 68], 128), ([81, 90, 83, 83], 64), ([83, 66, 65, 83], 256), ([85, 78, 75, 78, 79, 87, 78], 1)] = true := by decide +kernel

/-- fusion_engine_client.messages.signal_defs.SignalType -/
def e37 : PyEnum := ⟨"fusion_engine_client.messages.signal_defs.SignalType", 0, [
  ([85, 78, 75, 78, 79, 87, 78], 0)   -- UNKNOWN = 0
  ]⟩
/-- 1 names, 1 members -/
theorem e37_members : membersAre e37.defn [([85, 78, 75, 78, 79, 87, 78], 0)] = true := by decide +kernel

/-- fusion_engine_client.messages.solution.CalibrationStage -/
def e38 : PyEnum := ⟨"fusion_engine_client.messages.solution.CalibrationStage", 8, [
  ([85, 78, 75, 78, 79, 87, 78], 0),   -- UNKNOWN = 0
  ([77, 79, 85, 78, 84, 73, 78, 71, 95, 65, 78, 71, 76, 69], 1),   -- MOUNTING_ANGLE = 1
  ([68, 79, 78, 69], 255)   -- DONE = 255
  ]⟩
/-- 3 names, 3 members -/
theorem e38_members : membersAre e38.defn [([85, 78, 75, 78, 79, 87, 78], 0), ([77, 79, 85, 78, 84, 73, 78, 71, 95, 65, 78, 71, 76, 69], 1), ([68, 79, 78, 69], 255)] = true := by decide +kernel

/-- fusion_engine_client.parsers.decoder.FusionEngineDecoder.WarnOnError -/
def e39 : PyEnum := ⟨"fusion_engine_client.parsers.decoder.FusionEngineDecoder.WarnOnError", 0, [
  ([78, 79, 78, 69], 0),   -- NONE = 0
  ([76, 73, 75, 69, 76, 89], 1),   -- LIKELY = 1
  ([65, 76, 76], 2)   -- ALL = 2
  ]⟩
/-- 3 names, 3 members -/
theorem e39_members : membersAre e39.defn [([78, 79, 78, 69], 0), ([76, 73, 75, 69, 76, 89], 1), ([65, 76, 76], 2)] = true := by decide +kernel

def all : List PyEnum := [e0, e1, e2, e3, e4, e5, e6, e7, e8, e9, e10, e11, e12, e13, e14, e15, e16, e17, e18, e19, e20, e21, e22, e23, e24, e25, e26, e27, e28, e29, e30, e31, e32, e33, e34, e35, e36, e37, e38, e39]

theorem all_ok : ∀ e ∈ all, enumOk e.defn = true := by decide +kernel

/-- fusion_engine_client.messages.signal_defs.FrequencyBandMask : enum_bitmask(fusion_engine_client.messages.signal_defs.FrequencyBand, offset=0) -/
def m0 : PyMask := ⟨"fusion_engine_client.messages.signal_defs.FrequencyBandMask", 0,
  [⟨[85, 78, 75, 78, 79, 87, 78], 0⟩, ⟨[76, 49], 1⟩, ⟨[76, 50], 2⟩, ⟨[76, 53], 5⟩, ⟨[76, 54], 6⟩],
  [([65, 76, 76], 4294967295), ([76, 49], 2), ([76, 50], 4), ([76, 53], 32), ([76, 54], 64), ([85, 78, 75, 78, 79, 87, 78], 1)]⟩

/-- fusion_engine_client.messages.signal_defs.SatelliteTypeMask : enum_bitmask(fusion_engine_client.messages.signal_defs.SatelliteType, offset=0) -/
def m1 : PyMask := ⟨"fusion_engine_client.messages.signal_defs.SatelliteTypeMask", 0,
  [⟨[85, 78, 75, 78, 79, 87, 78], 0⟩, ⟨[71, 80, 83], 1⟩, ⟨[71, 76, 79, 78, 65, 83, 83], 2⟩, ⟨[76, 69, 79], 3⟩, ⟨[71, 65, 76, 73, 76, 69, 79], 4⟩, ⟨[66, 69, 73, 68, 79, 85], 5⟩, ⟨[81, 90, 83, 83], 6⟩, ⟨[77, 73, 88, 69, 68], 7⟩, ⟨[83, 66, 65, 83], 8⟩, ⟨[73, 82, 78, 83, 83], 9⟩],
  [([65, 76, 76], 4294967295), ([66, 69, 73, 68, 79, 85], 32), ([71, 65, 76, 73, 76, 69, 79], 16), ([71, 76, 79, 78, 65, 83, 83], 4), ([71, 80, 83], 2), ([73, 82, 78, 83, 83], 512), ([76, 69, 79], 8), ([77, 73, 88, 69, 68], 128), ([81, 90, 83, 83], 64), ([83, 66, 65, 83], 256), ([85, 78, 75, 78, 79, 87, 78], 1)]⟩

def masks : List PyMask := [m0, m1]

theorem masks_ok : ∀ m ∈ masks, maskOk m = true := by decide +kernel

end FeVerif.PyEnums
