/-
Literal model of `FusionEngineDecoder.on_data` (python/fusion_engine_client/parsers/decoder.py).

State: the byte buffer, the cached candidate header (only its payload size matters for framing;
the header object itself is `parseHeader (buf.take 24)`), the count of bytes processed.
One call of `pyIter` is one iteration of the `while self._buffer:` loop.
Payload deserialisation does not influence framing (a payload that fails to deserialise is
returned as raw bytes), so it does not appear here.
-/
import FeVerif.Model.Header

namespace FeVerif

structure PyDec where
  buf : Bytes
  hdr : Option Nat
  processed : Nat
  deriving DecidableEq, Repr

def PyDec.init : PyDec := ⟨[], none, 0⟩

/-- `self._header = None; self._buffer.pop(0); self._bytes_processed += 1` -/
def PyDec.pop (s : PyDec) : PyDec := ⟨s.buf.drop 1, none, s.processed + 1⟩

inductive PyIter
  | brk (s : PyDec)
  | cont (s : PyDec)
  | emit (off len : Nat) (s : PyDec)
  deriving Repr

/-- The part of the loop body after a candidate header (payload size `p`) is in hand. -/
def pyBody (s : PyDec) (p : Nat) : PyIter :=
  if s.buf.length < HDR + p then .brk ⟨s.buf, some p, s.processed⟩
  else if pyCrcOk s.buf = false then .cont s.pop
  else .emit s.processed (HDR + p) ⟨s.buf.drop (HDR + p), none, s.processed + (HDR + p)⟩

def pyIter (maxPayload : Nat) (s : PyDec) : PyIter :=
  if s.buf.length < HDR then .brk s
  else match s.hdr with
    | some p => pyBody s p
    | none =>
      if byteAt s.buf 0 ≠ SYNC0 then .cont s.pop
      else if byteAt s.buf 1 ≠ SYNC1 then .cont s.pop
      else if u16le s.buf 2 ≠ 0 then .cont s.pop
      else if u32le s.buf 16 > maxPayload then .cont s.pop
      else pyBody s (u32le s.buf 16)

/-- The state a loop iteration continues from, if any, holds fewer bytes than `s`. -/
def PyIter.Shrinks (s : PyDec) : PyIter → Prop
  | .brk _ => True
  | .cont s' | .emit _ _ s' => s'.buf.length < s.buf.length

theorem PyIter.Shrinks.ite {s : PyDec} {c : Prop} [Decidable c] {a b : PyIter} (ha : c → a.Shrinks s)
    (hb : ¬ c → b.Shrinks s) : (if c then a else b).Shrinks s := by
  split
  · exact ha ‹_›
  · exact hb ‹_›

theorem pyIter_shrinks {m : Nat} {s : PyDec} :
    (∀ s', pyIter m s = .cont s' → s'.buf.length < s.buf.length) ∧
    (∀ o l s', pyIter m s = .emit o l s' → s'.buf.length < s.buf.length) := by
  have h : (pyIter m s).Shrinks s := by
    unfold pyIter
    refine .ite (fun _ => trivial) fun hl => ?_
    unfold HDR at hl
    have hpop : ∀ {c : Prop}, c → (PyIter.cont s.pop).Shrinks s := fun _ => by
      show (s.buf.drop 1).length < _
      rw [List.length_drop]; omega
    have hbody : ∀ p, (pyBody s p).Shrinks s := fun p =>
      .ite (fun _ => trivial) fun hp => .ite hpop fun _ => by
        show (s.buf.drop (HDR + p)).length < _
        unfold HDR at hp ⊢; rw [List.length_drop]; omega
    cases s.hdr with
    | some p => exact hbody p
    | none => exact .ite hpop fun _ => .ite hpop fun _ => .ite hpop fun _ => .ite hpop fun _ => hbody _
  exact ⟨fun s' e => by rw [e] at h; exact h, fun o l s' e => by rw [e] at h; exact h⟩

/-- The `while` loop: accepted `(stream offset, length)` pairs and the state it leaves. -/
def pyLoop (m : Nat) (s : PyDec) : List (Nat × Nat) × PyDec :=
  match _h : pyIter m s with
  | .brk s' => ([], s')
  | .cont s' => pyLoop m s'
  | .emit o l s' => ((o, l) :: (pyLoop m s').1, (pyLoop m s').2)
termination_by s.buf.length
decreasing_by
  all_goals first
    | exact pyIter_shrinks.1 _ _h
    | exact pyIter_shrinks.2 _ _ _ _h

/-- `on_data(data)`. -/
def pyOnData (m : Nat) (s : PyDec) (data : Bytes) : List (Nat × Nat) × PyDec :=
  if data.length = 0 then ([], s) else pyLoop m ⟨s.buf ++ data, s.hdr, s.processed⟩

/-- Feeding a list of chunks: concatenated outputs and the final state. -/
def pyFeed (m : Nat) : PyDec → List Bytes → List (Nat × Nat) × PyDec
  | s, [] => ([], s)
  | s, d :: ds => ((pyOnData m s d).1 ++ (pyFeed m (pyOnData m s d).2 ds).1, (pyFeed m (pyOnData m s d).2 ds).2)

end FeVerif
