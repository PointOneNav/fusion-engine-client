/-
Lemmas about the CRC-32 definitions (Model/Crc32.lean, Spec/CrcBits.lean): linearity of the
zero-feed step, table lookup = eight bit steps, incremental computation, the affine law, and
detection of bursts.
-/
import FeVerif.Spec.CrcBits
namespace FeVerif

theorem crcShift_eq (c : W32) :
    crcShift c = (c >>> 1) ^^^ (if c.getLsbD 0 then crcPoly else 0#32) := by
  unfold crcShift
  rw [BitVec.and_one_eq_setWidth_ofBool_getLsbD]
  cases c.getLsbD 0 <;> simp [BitVec.xor_comm]

theorem crcShift_xor (a b : W32) : crcShift (a ^^^ b) = crcShift a ^^^ crcShift b := by
  have sel (x y : Bool) : (if (x ^^ y) = true then crcPoly else 0#32) =
      (if x then crcPoly else 0#32) ^^^ (if y then crcPoly else 0#32) := by
    cases x <;> cases y <;> simp
  rw [crcShift_eq, crcShift_eq, crcShift_eq, BitVec.getLsbD_xor, sel, BitVec.ushiftRight_xor_distrib]
  ac_rfl

theorem crcShift_zero : crcShift 0#32 = 0#32 := by decide

theorem crcShift_one : crcShift 1#32 = crcPoly := by decide

theorem crcShift_even {c : W32} (h : c.getLsbD 0 = false) : crcShift c = c >>> 1 := by
  rw [crcShift_eq, h]; simp

theorem crcShift_shl (p : W32) (h : p.getLsbD 31 = false) : crcShift (p <<< 1) = p := by
  rw [crcShift_even (by simp)]
  apply BitVec.eq_of_getLsbD_eq; intro i hi
  rw [BitVec.getLsbD_ushiftRight, BitVec.getLsbD_shiftLeft]
  by_cases h31 : i = 31
  · subst h31; rw [h]; simp
  · simp; omega

theorem crcShift_eq_zero {c : W32} (h : crcShift c = 0#32) : c = 0#32 := by
  rw [crcShift_eq] at h
  by_cases h0 : c.getLsbD 0 = true
  · -- bit 31 of `crcPoly` is set and the shift clears bit 31: a step that xors the polynomial in cannot give 0
    rw [if_pos h0] at h
    have := congrArg (fun x => x.getLsbD 31) h
    simp [crcPoly] at this
  · rw [if_neg h0, BitVec.xor_zero] at h
    apply BitVec.eq_of_getLsbD_eq; intro i hi
    cases i with
    | zero => simpa using h0
    | succ i =>
      have := congrArg (fun x => x.getLsbD i) h
      simpa [BitVec.getLsbD_ushiftRight, Nat.add_comm] using this

theorem crcIter_xor (k : Nat) (a b : W32) :
    crcIter k (a ^^^ b) = crcIter k a ^^^ crcIter k b := by
  induction k generalizing a b with
  | zero => rfl
  | succ k ih => simp only [crcIter, crcShift_xor, ih]

theorem crcIter_zero (k : Nat) : crcIter k 0#32 = 0#32 := by
  simpa using crcIter_xor k 0#32 0#32

theorem crcIter_add (a b : Nat) (v : W32) : crcIter (a + b) v = crcIter b (crcIter a v) := by
  induction a generalizing v with
  | zero => simp [crcIter]
  | succ a ih => rw [Nat.add_right_comm]; exact ih (crcShift v)

theorem crcShift_crcIter (k : Nat) (v : W32) : crcShift (crcIter k v) = crcIter k (crcShift v) :=
  (crcIter_add k 1 v).symm

/-- While only zero bits reach the feedback position the step is a plain shift. -/
theorem crcIter_low_zero (k : Nat) (c : W32) (h : ∀ i, i < k → c.getLsbD i = false) :
    crcIter k c = c >>> k := by
  induction k generalizing c with
  | zero => simp [crcIter]
  | succ k ih =>
    rw [crcIter, crcShift_even (h 0 (by omega)), ih]
    · rw [← BitVec.shiftRight_add, Nat.add_comm]
    · intro i hi; rw [BitVec.getLsbD_ushiftRight]; exact h (1 + i) (by omega)

theorem crcIter_ne_zero (k : Nat) {c : W32} (h : c ≠ 0#32) : crcIter k c ≠ 0#32 := by
  induction k generalizing c with
  | zero => exact h
  | succ k ih => exact ih (fun h' => h (crcShift_eq_zero h'))

theorem crcShift8_eq (c : W32) : crcShift8 c = crcIter 8 c := rfl

theorem crcShift8_xor (a b : W32) : crcShift8 (a ^^^ b) = crcShift8 a ^^^ crcShift8 b := by
  simp only [crcShift8_eq, crcIter_xor]

theorem crcTable_getD (i : Nat) (h : i < 256) : crcTable.getD i 0#32 = crcShift8 (BitVec.ofNat 32 i) := by
  simp [crcTable, Array.getD, h, crcTableGen]

theorem getLsbD_and_ff (x : W32) (i : Nat) :
    (x &&& 0xFF#32).getLsbD i = (decide (i < 8) && x.getLsbD i) := by
  rw [BitVec.getLsbD_and, show (0xFF#32) = BitVec.ofNat 32 (2 ^ 8 - 1) from rfl, BitVec.getLsbD_ofNat,
    Nat.testBit_two_pow_sub_one]
  cases h : x.getLsbD i
  · simp
  · simp; exact fun _ => x.lt_of_getLsbD h

/-- Eight steps: the low byte goes through the feedback, the other bits only shift. -/
theorem crcShift8_split (x : W32) : crcShift8 x = crcShift8 (x &&& 0xFF#32) ^^^ (x >>> 8) := by
  have hi : crcShift8 (x ^^^ (x &&& 0xFF#32)) = x >>> 8 := by
    rw [crcShift8_eq, crcIter_low_zero _ _ fun i hi => by rw [BitVec.getLsbD_xor, getLsbD_and_ff]; simp [hi]]
    apply BitVec.eq_of_getLsbD_eq; intro i _
    rw [BitVec.getLsbD_ushiftRight, BitVec.getLsbD_ushiftRight, BitVec.getLsbD_xor, getLsbD_and_ff]
    simp [show ¬ 8 + i < 8 by omega]
  rw [← hi, ← crcShift8_xor, BitVec.xor_comm x, ← BitVec.xor_assoc, BitVec.xor_self, BitVec.zero_xor]

theorem crcUpdate_eq_spec (c : W32) (b : Byte) : crcUpdate c b = crcByteSpec c b := by
  unfold crcUpdate crcByteSpec
  have hb : BitVec.ofNat 32 b.toNat >>> 8 = 0#32 := by
    apply BitVec.eq_of_toNat_eq; have := b.toNat_lt; simp [Nat.shiftRight_eq_div_pow]; omega
  rw [crcShift8_split, BitVec.ushiftRight_xor_distrib, hb, BitVec.xor_zero, crcTable_getD, BitVec.ofNat_toNat,
    BitVec.setWidth_eq]
  rw [BitVec.toNat_and]; exact Nat.lt_of_le_of_lt Nat.and_le_right (by decide)

theorem crcUpdate_eq : crcUpdate = crcByteSpec :=
  funext fun c => funext (crcUpdate_eq_spec c)

theorem crc32_eq_spec (init : W32) (bs : Bytes) :
    crc32 init bs = ~~~ (bs.foldl crcByteSpec (~~~ init)) := by
  unfold crc32
  rw [crcUpdate_eq, show (0xFFFFFFFF#32) = BitVec.allOnes 32 from rfl, BitVec.xor_allOnes, BitVec.xor_allOnes]

theorem crc32_append (init : W32) (a b : Bytes) : crc32 init (a ++ b) = crc32 (crc32 init a) b := by
  simp only [crc32_eq_spec, List.foldl_append, BitVec.not_not]

theorem crcByteSpec_xor (c₁ c₂ : W32) (b₁ b₂ : Byte) :
    crcByteSpec (c₁ ^^^ c₂) (b₁ ^^^ b₂) = crcByteSpec c₁ b₁ ^^^ crcByteSpec c₂ b₂ := by
  unfold crcByteSpec
  rw [UInt8.toNat_xor, BitVec.ofNat_xor, ← crcShift8_xor]; congr 1; ac_rfl

theorem foldl_crcByteSpec_xor (a e : Bytes) (c₁ c₂ : W32) (h : a.length = e.length) :
    (xorBytes a e).foldl crcByteSpec (c₁ ^^^ c₂) = a.foldl crcByteSpec c₁ ^^^ e.foldl crcByteSpec c₂ := by
  induction a generalizing e c₁ c₂ with
  | nil => match e, h with | [], _ => rfl
  | cons x a ih =>
    match e, h with
    | y :: e, h =>
      simp only [xorBytes, List.zipWith_cons_cons, List.foldl_cons, crcByteSpec_xor]
      exact ih e _ _ (by simpa using h)

theorem xor_eq_left {a e : W32} : a ^^^ e = a ↔ e = 0#32 := by
  rw [← BitVec.xor_right_inj a (y := 0#32), BitVec.xor_zero]

theorem crc32_xor (init : W32) (a e : Bytes) (h : a.length = e.length) :
    crc32 init (xorBytes a e) = crc32 init a ^^^ crcLin e := by
  rw [crc32_eq_spec, crc32_eq_spec, crcLin, ← BitVec.not_xor_left, ← foldl_crcByteSpec_xor a e _ _ h, BitVec.xor_zero]

theorem bitW_false : bitW false = 0#32 := rfl

theorem crcBits_zeros (q : Nat) (c : W32) : crcBits c (zeros q) = crcIter q c := by
  induction q generalizing c with
  | zero => rfl
  | succ q ih =>
    show crcBits (crcBitStep c false) (zeros q) = crcIter q (crcShift c)
    rw [ih, crcBitStep, bitW_false, BitVec.xor_zero]

theorem crcBits_append (c : W32) (u v : List Bool) : crcBits c (u ++ v) = crcBits (crcBits c u) v := by
  simp [crcBits, List.foldl_append]

theorem crcBits_single_true (c : W32) : crcBits c [true] = crcShift (c ^^^ 1#32) := rfl

theorem crcBits_zero_true : crcBits 0#32 [true] = crcPoly := crcShift_one

theorem getLsbD_packBits (w : List Bool) (i : Nat) (hi : i < 32) : (packBits w).getLsbD i = w.getD i false := by
  induction w generalizing i with
  | nil => simp [packBits]
  | cons b w ih =>
    rw [packBits, BitVec.getLsbD_xor, BitVec.getLsbD_shiftLeft]
    cases i with
    | zero => cases b <;> simp [bitW]
    | succ i => cases b <;> simp [bitW, ih i (by omega), hi]

theorem packBits_high (w : List Bool) (i : Nat) (h : w.length ≤ i) : (packBits w).getLsbD i = false := by
  by_cases hi : i < 32
  · rw [getLsbD_packBits w i hi]; simp [List.getD_eq_getElem?_getD, h]
  · exact BitVec.getLsbD_of_ge _ _ (by omega)

theorem packBits_ne_zero (w : List Bool) (hl : w.length ≤ 32) (ht : true ∈ w) : packBits w ≠ 0#32 := by
  obtain ⟨i, hi, hw⟩ := List.mem_iff_getElem.1 ht
  intro h0
  have := getLsbD_packBits w i (by omega)
  simp [h0, List.getD_eq_getElem?_getD, hi, hw] at this

/-- Feeding at most 32 bits is xoring them in all at once, packed, and then stepping: the bit at position `j` meets
the feedback only at step `j`, and until then a step moves it down one place like any other bit. -/
theorem crcBits_eq_iter (w : List Bool) (c : W32) (h : w.length ≤ 32) :
    crcBits c w = crcIter w.length (c ^^^ packBits w) := by
  induction w generalizing c with
  | nil => simp [crcBits, crcIter, packBits]
  | cons b w ih =>
    simp only [List.length_cons] at h
    show crcBits (crcBitStep c b) w = crcIter w.length (crcShift (c ^^^ packBits (b :: w)))
    -- `packBits w <<< 1` loses nothing in the shift back: bit 31 of `packBits w` is free, as `|w| ≤ 31`
    rw [ih _ (by omega), packBits, ← BitVec.xor_assoc, crcShift_xor (c ^^^ bitW b),
      crcShift_shl _ (packBits_high w 31 (by omega)), crcBitStep]

theorem packBits_bitsOfByte (b : Byte) : packBits (bitsOfByte b) = BitVec.ofNat 32 b.toNat := by
  apply BitVec.eq_of_getLsbD_eq; intro i hi
  rw [getLsbD_packBits _ i hi, BitVec.getLsbD_ofNat, decide_eq_true hi, Bool.true_and]
  match i with
  | 0 | 1 | 2 | 3 | 4 | 5 | 6 | 7 => rfl
  | i + 8 =>
    exact (Nat.testBit_lt_two_pow (Nat.lt_of_lt_of_le b.toNat_lt (Nat.pow_le_pow_right (by decide) (by omega)))).symm

theorem crcByteSpec_eq_bits (c : W32) (b : Byte) : crcByteSpec c b = crcBits c (bitsOfByte b) := by
  rw [crcBits_eq_iter _ _ (by simp [bitsOfByte]), packBits_bitsOfByte]; rfl

theorem foldl_crcByteSpec_eq_bits (bs : Bytes) (c : W32) :
    bs.foldl crcByteSpec c = crcBits c (bitsOf bs) := by
  induction bs generalizing c with
  | nil => rfl
  | cons b bs ih =>
    rw [List.foldl_cons, ih, crcByteSpec_eq_bits]
    simp [bitsOf, crcBits_append]

theorem crcLin_eq_bits (e : Bytes) : crcLin e = crcBits 0#32 (bitsOf e) := foldl_crcByteSpec_eq_bits e _

/-- Where a pattern sits does not matter: zero bits in front of it leave a zero register alone, zero bits behind
it are zero-feed steps, which keep a non-zero register non-zero. -/
theorem crcBits_zero_pad (p q : Nat) (w : List Bool) :
    crcBits 0#32 (zeros p ++ w ++ zeros q) = crcIter q (crcBits 0#32 w) := by
  rw [crcBits_append, crcBits_append, crcBits_zeros, crcBits_zeros, crcIter_zero]

theorem crcBits_burst_ne_zero {bits : List Bool} (h : IsBurst bits) : crcBits 0#32 bits ≠ 0#32 := by
  obtain ⟨p, w, q, rfl, hl, ht⟩ := h
  rw [crcBits_zero_pad, crcBits_eq_iter w _ hl, BitVec.zero_xor]
  exact crcIter_ne_zero _ (crcIter_ne_zero _ (packBits_ne_zero w hl ht))

theorem bitsOf_append (a b : Bytes) : bitsOf (a ++ b) = bitsOf a ++ bitsOf b := by
  simp [bitsOf]

theorem zeros_append (a b : Nat) : zeros a ++ zeros b = zeros (a + b) := by
  simp [zeros, List.replicate_append_replicate]

theorem bitsOf_replicate_zero (m : Nat) : bitsOf (List.replicate m (0 : Byte)) = zeros (8 * m) := by
  rw [bitsOf, List.flatMap_replicate, show bitsOfByte 0 = List.replicate 8 false from rfl,
    List.flatten_replicate_replicate, Nat.mul_comm]; rfl

theorem bitsOfByte_pow (k : Nat) (hk : k < 8) :
    bitsOfByte (UInt8.ofNat (2 ^ k)) = zeros k ++ true :: zeros (7 - k) := by
  have : ∀ k : Fin 8, bitsOfByte (UInt8.ofNat (2 ^ k.val)) = zeros k.val ++ true :: zeros (7 - k.val) := by
    decide
  exact this ⟨k, hk⟩

theorem bitsOf_flipPattern (n i k : Nat) (hi : i < n) (hk : k < 8) :
    bitsOf (flipPattern n i k) = zeros (8 * i + k) ++ [true] ++ zeros ((7 - k) + 8 * (n - (i + 1))) := by
  have : flipPattern n i k = List.replicate i 0 ++ [UInt8.ofNat (2 ^ k)] ++ List.replicate (n - (i + 1)) 0 := by
    simp [flipPattern, List.set_eq_take_append_cons_drop, hi, List.take_replicate, List.drop_replicate,
      Nat.min_eq_left (Nat.le_of_lt hi)]
  rw [this, bitsOf_append, bitsOf_append, bitsOf_replicate_zero, bitsOf_replicate_zero,
    show bitsOf [UInt8.ofNat (2 ^ k)] = bitsOfByte _ ++ [] from rfl, bitsOfByte_pow k hk]
  simp only [List.append_nil, List.append_assoc, List.cons_append, List.nil_append, ← zeros_append]

theorem xorBytes_length {a e : Bytes} (h : a.length = e.length) : (xorBytes a e).length = a.length := by
  simp [xorBytes, h]

theorem flipPattern_length (n i k : Nat) : (flipPattern n i k).length = n := by simp [flipPattern]

/-- A single flipped bit followed by `q` further bits: `q + 1` steps from `1`, and `crcShift 1 = crcPoly`. -/
theorem crcLin_flipPattern (n i k : Nat) (hi : i < n) (hk : k < 8) :
    crcLin (flipPattern n i k) = crcIter ((7 - k) + 8 * (n - (i + 1))) crcPoly := by
  rw [crcLin_eq_bits, bitsOf_flipPattern n i k hi hk, crcBits_zero_pad, crcBits_zero_true]

end FeVerif
