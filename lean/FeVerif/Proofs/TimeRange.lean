/-
Lemmas for property C13: the latch machine of `TimeRange.is_in_range` refines the interval specification.

One call of `is_in_range` is put in closed form and then told in the terms of the interval the range stands for on
what is still to come (`Interval.latch`, `TimeRange.isInRange_interval`); after that the `t0` bookkeeping and the
comparisons of the implementation are out of the way.  Two things rest on that form.  The invariant `Inv` gives the
refinement on monotone sequences.  `TimeRange.run_equiv` says that ranges whose intervals the latches cannot tell
apart answer alike from any latch state on any sequence, and that is all there is to `make_absolute`, before or in
the middle of a pass.  `intersect` is "convert the relative range of a mixed pair" (`TimeRange.promote`) followed by
`meet`; that the meet of two ranges answers with the conjunction is shown on the closed form `seqC` of the
specification.
-/
import FeVerif.Spec.TimeRange

namespace FeVerif.TR

theorem Ext.above_mono {s : Ext} {c c' : Int} (h : c ≤ c') (h' : s.above c' = true) : s.above c = true := by
  cases s with
  | fin v => simp [Ext.above] at h' ⊢; omega
  | inf => rfl

theorem Ext.above_max (x y : Ext) (c : Int) : (x.max y).above c = (x.above c || y.above c) := by
  cases x <;> cases y <;> simp [Ext.max, Ext.above]
  rename_i a b
  by_cases h : a < b <;> simp [h] <;> omega

theorem Ext.above_add (x : Ext) (z c : Int) : (x.add z).above c = x.above (c - z) := by
  cases x <;> simp [Ext.add, Ext.above]
  omega

@[simp] theorem p1Times_nil : p1Times [] = [] := rfl

theorem p1Times_append (a b : List Msg) : p1Times (a ++ b) = p1Times a ++ p1Times b := by
  simp [p1Times, List.filterMap_append]

theorem p1Times_cons (m : Msg) (ms : List Msg) : p1Times (m :: ms) = p1Times [m] ++ p1Times ms :=
  p1Times_append [m] ms

theorem mem_p1Times {ms : List Msg} {m : Msg} {t : Int} (hm : m ∈ ms) (ht : m.p1? = some t) : t ∈ p1Times ms :=
  List.mem_filterMap.mpr ⟨m, hm, ht⟩

theorem orElse_none (a : Option Int) : orElse a none = a := by cases a <;> rfl

theorem orElse_assoc (a b c : Option Int) : orElse (orElse a b) c = orElse a (orElse b c) := by cases a <;> rfl

/-- The `t0` that `make_absolute(p)` works with. -/
theorem ite_eq_orElse (p a : Option Int) : (if p.isSome ∧ a.isNone then p else a) = orElse a p := by
  cases a <;> cases p <;> rfl

theorem orElse_some_right (a : Option Int) (t : Int) : ∃ z, orElse a (some t) = some z := by
  cases a <;> simp [orElse]

theorem firstP1_cons (m : Msg) (ms : List Msg) : firstP1 (m :: ms) = orElse m.p1? (firstP1 ms) := by
  simp only [firstP1, p1Times, List.filterMap_cons]
  cases m.p1? <;> rfl

theorem firstP1_of_mem {ms : List Msg} {t : Int} (h : t ∈ p1Times ms) : ∃ z, firstP1 ms = some z :=
  ⟨_, List.head?_eq_some_head (List.ne_nil_of_mem h)⟩

theorem TimeRange.orElse_t0 (r : TimeRange) (t : Int) : orElse r.t0 (some t) = some (r.t0After t) := by
  unfold orElse TimeRange.t0After; cases r.t0 <;> rfl

/-- `m` carries a P1 time at or after the start. -/
def Interval.startSeen (I : Interval) (m : Msg) : Bool :=
  match m.p1? with
  | some t =>
    match I.rel t with
    | some c => I.startOk c
    | none => false
  | none => false

theorem Interval.rel_affine {I : Interval} {t c : Int} (h : I.rel t = some c) : ∃ z, ∀ t', I.rel t' = some (t' - z) := by
  unfold Interval.rel at h ⊢
  cases ha : I.absolute with
  | true => exact ⟨0, fun t' => by simp⟩
  | false =>
    cases ho : I.origin with
    | none => simp [ha, ho] at h
    | some z => exact ⟨z, fun t' => by simp⟩

theorem Interval.rel_defined {I : Interval} {t c : Int} (h : I.rel t = some c) (t' : Int) : ∃ c', I.rel t' = some c' :=
  (Interval.rel_affine h).elim fun _ hz => ⟨_, hz t'⟩

theorem Interval.startOk_mono {I : Interval} {c c' : Int} (hle : c ≤ c') (h : I.startOk c = true) : I.startOk c' = true := by
  unfold Interval.startOk at h ⊢
  split
  · rfl
  · rename_i s hs
    simp [hs] at h
    cases hb : s.above c' with
    | false => rfl
    | true => rw [Ext.above_mono hle hb] at h; cases h

theorem Interval.atOrBeyondEnd_mono {I : Interval} {c c' : Int} (hle : c ≤ c') (h : I.atOrBeyondEnd c = true) :
    I.atOrBeyondEnd c' = true := by
  unfold Interval.atOrBeyondEnd at h ⊢
  split
  · rename_i hs; simp [hs] at h
  · rename_i e hs; simp [hs] at h ⊢; omega

/-- What `endSeen` and `startSeen` have in common: `m` carries a P1 time whose comparison time satisfies `P`. -/
def Interval.sees (I : Interval) (P : Int → Bool) (m : Msg) : Bool :=
  match m.p1? with
  | some t =>
    match I.rel t with
    | some c => P c
    | none => false
  | none => false

theorem Interval.endSeen_eq (I : Interval) : I.endSeen = I.sees I.atOrBeyondEnd := rfl

theorem Interval.startSeen_eq (I : Interval) : I.startSeen = I.sees I.startOk := rfl

theorem Interval.sees_iff {I : Interval} {P : Int → Bool} {m : Msg} :
    I.sees P m = true ↔ ∃ t c, m.p1? = some t ∧ I.rel t = some c ∧ P c = true := by
  unfold Interval.sees
  cases m.p1? with
  | none => simp
  | some t => cases hr : I.rel t <;> simp [hr]

theorem Interval.sees_untimed (I : Interval) (P : Int → Bool) {m : Msg} (hm : m.p1? = none) : I.sees P m = false := by
  simp [Interval.sees, hm]

theorem Interval.sees_timed {I : Interval} (P : Int → Bool) {m : Msg} {t c : Int} (hm : m.p1? = some t)
    (hr : I.rel t = some c) : I.sees P m = P c := by
  simp [Interval.sees, hm, hr]

theorem Interval.contains_timed {I : Interval} {m : Msg} {t : Int} (hm : m.p1? = some t) :
    I.contains t = (I.startSeen m && !I.endSeen m) := by
  simp only [Interval.contains, Interval.startSeen, Interval.endSeen, hm]
  cases I.rel t <;> rfl

theorem Interval.sees_mono {I : Interval} {P : Int → Bool} (hP : ∀ {c c'}, c ≤ c' → P c = true → P c' = true)
    {x y : Msg} {t t' : Int} (hx : x.p1? = some t) (hy : y.p1? = some t') (hle : t ≤ t') (h : I.sees P x = true) :
    I.sees P y = true := by
  obtain ⟨_, c, hx', hr, hc⟩ := Interval.sees_iff.mp h
  cases hx.symm.trans hx'
  obtain ⟨z, hz⟩ := Interval.rel_affine hr
  cases (hz t).symm.trans hr
  exact Interval.sees_iff.mpr ⟨t', _, hy, hz t', hP (by omega) hc⟩

theorem Interval.sees_later {I : Interval} {P : Int → Bool} (hP : ∀ {c c'}, c ≤ c' → P c = true → P c' = true)
    {pre : List Msg} {m : Msg} {t : Int} (hm : m.p1? = some t) (hord : ∀ t' ∈ p1Times pre, t' ≤ t)
    (h : pre.any (I.sees P) = true) : I.sees P m = true := by
  obtain ⟨x, hx, hs⟩ := List.any_eq_true.mp h
  obtain ⟨t', _, ht', _⟩ := Interval.sees_iff.mp hs
  exact Interval.sees_mono hP ht' hm (hord t' (mem_p1Times hx ht')) hs

/-- One call on a range without bounds: everything is accepted, and the first P1 time is recorded as `t0` whichever
of the two shortcuts is taken (the first one needs `t0` to be known already, and then recording changes nothing). -/
theorem TimeRange.isInRange_unspecified {r : TimeRange} (retTs : Bool) (m : Msg) (hs : r.specified = false) :
    r.isInRange retTs m = ({ r.extract m with started := true }, true) := by
  obtain ⟨s, e, a, z, sp, st, en⟩ := r
  simp only at hs
  subst hs
  cases z with
  | none => cases retTs <;> simp [TimeRange.isInRange]
  | some z =>
    cases retTs <;> cases hm : m.p1? <;> simp [TimeRange.isInRange, TimeRange.extract, TimeRange.t0After, hm]

/-- `r` carries the bounds and the type of `I`.  `spec` says nothing of `I`: it is there because the latch block, which
is what is told in `I`'s terms, is reached only by a range with bounds. -/
structure Rep (I : Interval) (r : TimeRange) : Prop where
  start : r.start = I.start
  stop : r.stop = I.stop
  abs : r.absolute = I.absolute
  spec : r.specified = true

theorem Rep.below {I : Interval} {r : TimeRange} (h : Rep I r) (c : Int) : r.below c = !I.startOk c := by
  unfold TimeRange.below Interval.startOk
  rw [h.start]
  cases I.start <;> simp

theorem Rep.beyond {I : Interval} {r : TimeRange} (h : Rep I r) (c : Int) : r.beyond c = I.atOrBeyondEnd c := by
  unfold TimeRange.beyond Interval.atOrBeyondEnd
  rw [h.stop]
  cases I.stop <;> rfl

/-- What one call of `is_in_range` leaves: the answer, then `_in_range_started` and `_in_range_ended`. -/
structure Latched where
  verdict : Bool
  started : Bool
  ended : Bool

/-- The latch block of `is_in_range` (the model's `test` and `latch`) for a range that stands for `I`, told in `I`'s
terms. -/
def Interval.latch (I : Interval) (st en : Bool) (m : Msg) : Latched :=
  match m.p1? with
  | none => ⟨!en && (I.start.isNone || st), st || (!en && (I.start.isNone || st)), en⟩
  | some _ =>
    ⟨!en && I.startSeen m && !I.endSeen m, st || (!en && I.startSeen m && !I.endSeen m),
      en || (I.startSeen m && I.endSeen m) || (st && !(!en && I.startSeen m && !I.endSeen m))⟩

theorem TimeRange.interval_rel (r : TimeRange) {m : Msg} {t : Int} (hm : m.p1? = some t) (ms : List Msg) :
    (r.interval (m :: ms)).rel t = some (r.cmpTime t) := by
  have ho : orElse r.t0 (firstP1 (m :: ms)) = some (r.t0After t) := by
    rw [firstP1_cons, hm]; exact r.orElse_t0 t
  unfold TimeRange.interval Interval.rel TimeRange.cmpTime
  rw [ho]
  cases r.absolute <;> rfl

/-- `ms` is arbitrary: a call does not look at what comes later, `ms` only serves to name the interval (and by
`interval_step` what the call leaves stands for the same interval on `ms`). -/
theorem TimeRange.isInRange_interval (r : TimeRange) (retTs : Bool) (hs : r.specified = true) (m : Msg)
    (ms : List Msg) :
    r.isInRange retTs m =
      ({ r with t0 := orElse r.t0 m.p1?, started := ((r.interval (m :: ms)).latch r.started r.ended m).started,
                ended := ((r.interval (m :: ms)).latch r.started r.ended m).ended },
        ((r.interval (m :: ms)).latch r.started r.ended m).verdict) := by
  have h : Rep (r.interval (m :: ms)) r := ⟨rfl, rfl, rfl, hs⟩
  cases hm : m.p1? with
  | none =>
    simp only [TimeRange.isInRange, TimeRange.extract, TimeRange.test, TimeRange.latch, Interval.latch, hm, hs,
      orElse_none, TimeRange.interval]
    obtain ⟨s, e, a, z, sp, st, en⟩ := r
    cases en <;> cases st <;> cases s <;> rfl
  | some t =>
    have hb : r.below (r.cmpTime t) = !(r.interval (m :: ms)).startSeen m := by
      rw [h.below, Interval.startSeen_eq, Interval.sees_timed _ hm (r.interval_rel hm ms)]
    have he : r.beyond (r.cmpTime t) = (r.interval (m :: ms)).endSeen m := by
      rw [h.beyond, Interval.endSeen_eq, Interval.sees_timed _ hm (r.interval_rel hm ms)]
    simp only [TimeRange.isInRange, TimeRange.extract, TimeRange.test, TimeRange.latch, Interval.latch, hm, hs, hb, he,
      r.orElse_t0]
    generalize (r.interval (m :: ms)).startSeen m = s'
    generalize (r.interval (m :: ms)).endSeen m = e'
    generalize r.t0After t = z'
    obtain ⟨s, e, a, z, sp, st, en⟩ := r
    cases en <;> cases st <;> cases s' <;> cases e' <;> rfl

theorem TimeRange.interval_step (r : TimeRange) (st en : Bool) (m : Msg) (ms : List Msg) :
    TimeRange.interval { r with t0 := orElse r.t0 m.p1?, started := st, ended := en } ms = r.interval (m :: ms) := by
  unfold TimeRange.interval
  rw [firstP1_cons, orElse_assoc]

theorem TimeRange.isInRange_state (r : TimeRange) (retTs : Bool) (m : Msg) :
    ∃ st en, (r.isInRange retTs m).1 = { r with t0 := orElse r.t0 m.p1?, started := st, ended := en } := by
  rcases Bool.eq_false_or_eq_true r.specified with hs | hs
  · rw [r.isInRange_interval retTs hs m []]; exact ⟨_, _, rfl⟩
  · rw [TimeRange.isInRange_unspecified retTs m hs]
    refine ⟨true, r.ended, ?_⟩
    unfold TimeRange.extract
    cases m.p1? with
    | none => rw [orElse_none]
    | some t => rw [r.orElse_t0]

/-- The first P1 time seen is recorded as `t0` whether or not the range has bounds. -/
theorem TimeRange.run_state (r : TimeRange) (retTs : Bool) (ms : List Msg) :
    ∃ st en, (r.run retTs ms).1 = { r with t0 := orElse r.t0 (firstP1 ms), started := st, ended := en } := by
  induction ms generalizing r with
  | nil => exact ⟨r.started, r.ended, by rw [show firstP1 [] = none from rfl, orElse_none]; rfl⟩
  | cons m ms ih =>
    obtain ⟨st, en, h⟩ := r.isInRange_state retTs m
    obtain ⟨st', en', h'⟩ := ih (r.isInRange retTs m).1
    refine ⟨st', en', ?_⟩
    simp only [TimeRange.run]
    rw [h', h, firstP1_cons, orElse_assoc]

/-- State of the object after the messages `pre` (verdicts `acc`), with `ms` still to come. -/
structure Inv (I : Interval) (pre : List Msg) (acc : List Bool) (ms : List Msg) (r : TimeRange) : Prop where
  rep : Rep I r
  origin : orElse r.t0 (firstP1 ms) = I.origin
  started : r.started = acc.any id
  ended_sound : r.ended = true → pre.any I.endSeen = true
  /-- A P1 time at or beyond the end but before the start (there are such only if `start > end`) does not latch
  `ended` while nothing has been accepted; the untimed messages after it are refused for want of `started` instead. -/
  ended_complete : pre.any I.endSeen = true → r.ended = true ∨ (r.start ≠ none ∧ r.started = false)
  /-- With a closed start `started` has a witness among the P1 times; later ones are then at or after the start too,
  which is what keeps "started, and now before the start" from latching `ended`. -/
  start_wit : r.start ≠ none → r.started = true → pre.any I.startSeen = true
  order : ∀ t' ∈ p1Times pre, ∀ t ∈ p1Times ms, t' ≤ t
  mono : (p1Times ms).Pairwise (· ≤ ·)

theorem Inv.interval_eq {I : Interval} {pre acc ms r} (h : Inv I pre acc ms r) : r.interval ms = I := by
  obtain ⟨s, e, a, o⟩ := I
  simp only [TimeRange.interval, h.rep.start, h.rep.stop, h.rep.abs, h.origin]

/-- While untimed messages can still be accepted, `_in_range_ended` says exactly whether the end has been seen. -/
theorem Inv.ended_eq {I : Interval} {pre acc ms r} (h : Inv I pre acc ms r)
    (ho : (I.start.isNone || r.started) = true) : r.ended = pre.any I.endSeen := by
  cases he : pre.any I.endSeen with
  | false => cases hen : r.ended with
    | false => rfl
    | true => rw [h.ended_sound hen] at he; cases he
  | true =>
    rcases h.ended_complete he with h1 | ⟨h1, h2⟩
    · exact h1
    · rw [h.rep.start] at h1; simp [h1, h2] at ho

/-- The bookkeeping of one step: what is left to show is how the two latches relate to the bounds seen. -/
theorem Inv.snoc {I : Interval} {pre acc ms r} {m : Msg} (h : Inv I pre acc (m :: ms) r) {v st en : Bool}
    {z : Option Int} (origin : orElse z (firstP1 ms) = I.origin) (started : st = (r.started || v))
    (sound : en = true → (pre.any I.endSeen || I.endSeen m) = true)
    (complete : (pre.any I.endSeen || I.endSeen m) = true → en = true ∨ (r.start ≠ none ∧ st = false))
    (wit : r.start ≠ none → st = true → (pre.any I.startSeen || I.startSeen m) = true) :
    Inv I (pre ++ [m]) (acc ++ [v]) ms { r with t0 := z, started := st, ended := en } := by
  -- the P1 times stay in order when `m` moves from what is to come to what has been seen
  have hord := h.order
  have hmono := h.mono
  rw [p1Times_cons] at hord hmono
  obtain ⟨_, hms, hm⟩ := List.pairwise_append.mp hmono
  have hord' : ∀ t' ∈ p1Times (pre ++ [m]), ∀ t ∈ p1Times ms, t' ≤ t := fun t' ht' t ht => by
    rw [p1Times_append] at ht'
    rcases List.mem_append.mp ht' with h' | h'
    · exact hord t' h' t (List.mem_append_right _ ht)
    · exact hm t' h' t ht
  refine ⟨⟨h.rep.start, h.rep.stop, h.rep.abs, h.rep.spec⟩, origin, ?_, ?_, ?_, ?_, hord', hms⟩
  all_goals simp only [List.any_append, List.any_cons, List.any_nil, Bool.or_false]
  · rw [started, h.started]; rfl
  · exact sound
  · exact complete
  · exact wit

theorem Inv.step {I : Interval} {pre acc ms r} {m : Msg} (retTs : Bool) (h : Inv I pre acc (m :: ms) r) :
    (r.isInRange retTs m).2 = I.verdict pre acc m ∧
      Inv I (pre ++ [m]) (acc ++ [I.verdict pre acc m]) ms (r.isInRange retTs m).1 := by
  have ho : orElse (orElse r.t0 m.p1?) (firstP1 ms) = I.origin := by
    rw [orElse_assoc, ← firstP1_cons]; exact h.origin
  rw [r.isInRange_interval retTs h.rep.spec m ms, h.interval_eq]
  cases hm : m.p1? with
  | none =>
    have hv : I.verdict pre acc m = (!r.ended && (I.start.isNone || r.started)) := by
      simp only [Interval.verdict, hm, ← h.started]
      cases ho : (I.start.isNone || r.started) with
      | false => simp
      | true => rw [h.ended_eq ho]
    -- with a closed start such a message is accepted only once started: `started` does not move
    have hst : r.start ≠ none → (r.started || (!r.ended && (I.start.isNone || r.started))) = r.started := by
      intro hn
      rw [← h.rep.start]
      cases hs : r.start with
      | none => exact absurd hs hn
      | some _ => cases r.started <;> simp
    have hes : I.endSeen m = false := I.sees_untimed _ hm
    have hss : I.startSeen m = false := I.sees_untimed _ hm
    rw [hm] at ho
    simp only [Interval.latch, hm, hv]
    refine ⟨trivial, h.snoc ho rfl ?_ ?_ ?_⟩
    · rw [hes, Bool.or_false]; exact h.ended_sound
    · rw [hes, Bool.or_false]
      exact fun hp => (h.ended_complete hp).imp_right fun ⟨h1, h2⟩ => ⟨h1, (hst h1).trans h2⟩
    · rw [hss, Bool.or_false]
      exact fun hn hs => h.start_wit hn ((hst hn).symm.trans hs)
  | some t =>
    obtain ⟨c, hrel⟩ : ∃ c, I.rel t = some c := ⟨_, h.interval_eq ▸ r.interval_rel hm ms⟩
    have hbefore : ∀ t' ∈ p1Times pre, t' ≤ t := fun t' ht' => h.order t' ht' t (mem_p1Times List.mem_cons_self hm)
    -- P1 times do not decrease: a bound that an earlier message has passed, this one has passed
    have hE : pre.any I.endSeen = true → I.endSeen m = true :=
      Interval.sees_later Interval.atOrBeyondEnd_mono hm hbefore
    have hS : pre.any I.startSeen = true → I.startSeen m = true :=
      Interval.sees_later Interval.startOk_mono hm hbefore
    have hO : r.start = none → I.startSeen m = true := fun hn => by
      rw [Interval.startSeen_eq, Interval.sees_timed _ hm hrel, Interval.startOk, ← h.rep.start, hn]
    -- so once started, at or after the start; once ended, at or beyond the end
    have hst : r.started = true → I.startSeen m = true := fun hst =>
      if hn : r.start = none then hO hn else hS (h.start_wit hn hst)
    have hen : r.ended = true → I.endSeen m = true := fun hen => hE (h.ended_sound hen)
    have hv : I.verdict pre acc m = (!r.ended && I.startSeen m && !I.endSeen m) := by
      simp only [Interval.verdict, hm, Interval.contains_timed hm]
      cases he : r.ended with
      | false => simp
      | true => simp [hen he]
    rw [hm] at ho
    simp only [Interval.latch, hm, hv]
    refine ⟨trivial, h.snoc ho rfl (fun he => ?_) (fun hp => ?_) (fun hn hs => ?_)⟩
    · cases hhi : I.endSeen m with
      | true => simp
      | false =>
        -- not ended before; latched now only if started and before the start, which cannot be
        have he' : r.ended = false := Bool.eq_false_iff.2 fun he' => Bool.false_ne_true (hhi ▸ hen he')
        simp [he', hhi] at he
        exact absurd (hst he.1) (by simp [he.2])
    · have hhi : I.endSeen m = true := by
        cases hp' : pre.any I.endSeen with
        | true => exact hE hp'
        | false => simpa [hp'] using hp
      cases hlo : I.startSeen m with
      | true => simp [hhi]
      | false =>
        -- at or beyond the end but before the start: latched unless nothing has been accepted yet
        have hs : r.started = false := Bool.eq_false_iff.2 fun hs => Bool.false_ne_true (hlo ▸ hst hs)
        exact Or.inr ⟨fun hn => by simp [hO hn] at hlo, by simp [hs]⟩
    · cases hs' : r.started with
      | true => simp [h.start_wit hn hs']
      | false => simp [hs'] at hs; simp [hs]

theorem Inv.run {I : Interval} {ms : List Msg} : ∀ {pre acc r} (retTs : Bool), Inv I pre acc ms r →
    (r.run retTs ms).2 = I.seqFrom pre acc ms := by
  induction ms with
  | nil => intros; rfl
  | cons m ms ih =>
    intro pre acc r retTs h
    obtain ⟨h1, h2⟩ := h.step retTs
    simp only [TimeRange.run, Interval.seqFrom]
    rw [h1, ih retTs h2]

theorem TimeRange.run_unspecified {ms : List Msg} : ∀ {r : TimeRange} (retTs : Bool), r.specified = false →
    (r.run retTs ms).2 = ms.map fun _ => true := by
  induction ms with
  | nil => intros; rfl
  | cons m ms ih =>
    intro r retTs h
    obtain ⟨st, en, h'⟩ := r.isInRange_state retTs m
    simp only [TimeRange.run, List.map_cons]
    rw [ih retTs (by rw [h']; exact h), TimeRange.isInRange_unspecified retTs m h]

theorem Interval.seqFrom_unbounded {I : Interval} (hs : I.start = none) (he : I.stop = none) {ms : List Msg} :
    ∀ {pre acc}, (∀ t ∈ p1Times ms, ∃ c, I.rel t = some c) → I.seqFrom pre acc ms = ms.map fun _ => true := by
  induction ms with
  | nil => intros; rfl
  | cons m ms ih =>
    intro pre acc h
    have hend : pre.any I.endSeen = false :=
      List.any_eq_false.mpr fun x _ => by simp [Interval.endSeen_eq, Interval.sees_iff, Interval.atOrBeyondEnd, he]
    have hv : I.verdict pre acc m = true := by
      unfold Interval.verdict
      cases hm : m.p1? with
      | none => simp [hend, hs]
      | some t =>
        obtain ⟨c, hc⟩ := h t (mem_p1Times List.mem_cons_self hm)
        simp [Interval.contains, hc, Interval.startOk, Interval.atOrBeyondEnd, hs, he]
    simp only [Interval.seqFrom, List.map_cons]
    rw [hv, ih fun t ht => h t (by rw [p1Times_cons]; exact List.mem_append_right _ ht)]

/-- The relative time is defined at every P1 time of the sequence: the first of them is the origin if none was
supplied. -/
theorem TimeRange.interval_rel_defined (r : TimeRange) {msgs : List Msg} {t : Int} (ht : t ∈ p1Times msgs) :
    ∃ c, (r.interval msgs).rel t = some c := by
  obtain ⟨z, hz⟩ := firstP1_of_mem ht
  obtain ⟨o, ho⟩ := orElse_some_right r.t0 z
  unfold Interval.rel TimeRange.interval
  rw [hz, ho]
  cases r.absolute <;> exact ⟨_, rfl⟩

theorem TimeRange.run_refines (r : TimeRange) (retTs : Bool) (msgs : List Msg) (hf : r.Fresh)
    (hmono : Monotone msgs) : (r.run retTs msgs).2 = (r.interval msgs).seq msgs := by
  cases hsp : r.specified with
  | false =>
    have hwf : (r.start.isSome || r.stop.isSome) = false := hf.wf.symm.trans hsp
    simp only [Bool.or_eq_false_iff, Option.isSome_eq_false_iff, Option.isNone_iff_eq_none] at hwf
    rw [TimeRange.run_unspecified retTs hsp]
    exact (Interval.seqFrom_unbounded hwf.1 hwf.2 fun t ht => r.interval_rel_defined ht).symm
  | true =>
    refine Inv.run retTs ⟨⟨rfl, rfl, rfl, hsp⟩, rfl, by simp [hf.started], ?_, ?_, ?_, ?_, hmono⟩
    · intro h; rw [hf.ended] at h; cases h
    · intro h; cases h
    · intro _ h; rw [hf.started] at h; cases h
    · intro t' ht'; cases ht'

/-- The verdict with "some earlier message has been accepted" replaced by a statement about the messages alone. -/
def Interval.verdictC (I : Interval) (pre : List Msg) (m : Msg) : Bool :=
  match m.p1? with
  | some t => I.contains t
  | none => !pre.any I.endSeen && (I.start.isNone || pre.any I.startSeen)

def Interval.seqC (I : Interval) (pre : List Msg) : List Msg → List Bool
  | [] => []
  | m :: ms => I.verdictC pre m :: I.seqC (pre ++ [m]) ms

/-- The two forms agree as long as, short of the end, "something has been accepted" and "something was at or after the
start" say the same about a closed start. -/
theorem Interval.seqFrom_eq_seqC {I : Interval} {ms : List Msg} : ∀ {pre acc},
    (pre.any I.endSeen = false → (I.start.isNone || acc.any id) = (I.start.isNone || pre.any I.startSeen)) →
    I.seqFrom pre acc ms = I.seqC pre ms := by
  induction ms with
  | nil => intros; rfl
  | cons m ms ih =>
    intro pre acc h
    have hv : I.verdict pre acc m = I.verdictC pre m := by
      unfold Interval.verdict Interval.verdictC
      cases m.p1? with
      | some t => rfl
      | none => cases hp : pre.any I.endSeen with
        | true => rfl
        | false => simp [h hp]
    simp only [Interval.seqFrom, Interval.seqC]
    rw [hv]
    refine congrArg _ (ih fun hp => ?_)
    simp only [List.any_append, List.any_cons, List.any_nil, Bool.or_false, Bool.or_eq_false_iff, id] at hp ⊢
    have h0 := h hp.1
    cases hso : I.start.isNone with
    | true => rfl
    | false =>
      -- a timed message short of the end is accepted iff it is at or after the start
      rw [hso] at h0
      simp only [Bool.false_or] at h0 ⊢
      rw [h0]
      unfold Interval.verdictC
      cases hm : m.p1? with
      | none => simp [hp.1, hso, show I.startSeen m = false from I.sees_untimed _ hm]
      | some t => simp [Interval.contains_timed hm, hp.2]

theorem Interval.seq_eq_seqC (I : Interval) (ms : List Msg) : I.seq ms = I.seqC [] ms :=
  Interval.seqFrom_eq_seqC fun _ => rfl

/-- Intervals that the latches cannot tell apart. -/
structure Interval.Equiv (I J : Interval) : Prop where
  contains : ∀ t, I.contains t = J.contains t
  endSeen : ∀ m, I.endSeen m = J.endSeen m
  startSeen : ∀ m, I.startSeen m = J.startSeen m
  isOpen : I.start.isNone = J.start.isNone

theorem Interval.Equiv.latch {I J : Interval} (h : Interval.Equiv I J) : I.latch = J.latch := by
  funext st en m
  simp only [Interval.latch, h.startSeen, h.endSeen, h.isOpen]

theorem TimeRange.run_equiv {ms : List Msg} (retTs : Bool) : ∀ {r r' : TimeRange}, r.specified = true →
    r'.specified = true → r.started = r'.started → r.ended = r'.ended →
    Interval.Equiv (r.interval ms) (r'.interval ms) → (r.run retTs ms).2 = (r'.run retTs ms).2 := by
  induction ms with
  | nil => intros; rfl
  | cons m ms ih =>
    intro r r' hs hs' hst hen he
    have h := r.isInRange_interval retTs hs m ms
    have h' := r'.isInRange_interval retTs hs' m ms
    rw [← he.latch, ← hst, ← hen] at h'
    simp only [TimeRange.run, h, h']
    refine congrArg _ (ih hs hs' rfl rfl ?_)
    rw [TimeRange.interval_step, TimeRange.interval_step]
    exact he

theorem Interval.equiv_shift (s : Option Ext) (e : Option Int) (z : Int) (o : Option Int) :
    Interval.Equiv ⟨s, e, false, some z⟩ ⟨s.map (·.add z), e.map (· + z), true, o⟩ := by
  have hso (t : Int) : Interval.startOk ⟨s, e, false, some z⟩ (t - z) =
      Interval.startOk ⟨s.map (·.add z), e.map (· + z), true, o⟩ t := by
    cases s <;> simp [Interval.startOk, Ext.above_add]
  have hen (t : Int) : Interval.atOrBeyondEnd ⟨s, e, false, some z⟩ (t - z) =
      Interval.atOrBeyondEnd ⟨s.map (·.add z), e.map (· + z), true, o⟩ t := by
    cases e <;> simp [Interval.atOrBeyondEnd]
    omega
  refine ⟨fun t => ?_, fun m => ?_, fun m => ?_, by cases s <;> rfl⟩
  · simp [Interval.contains, Interval.rel, hso, hen]
  · cases hm : m.p1? <;> simp [Interval.endSeen, hm, Interval.rel, hen]
  · cases hm : m.p1? <;> simp [Interval.startSeen, hm, Interval.rel, hso]

theorem Interval.startSeen_congr {I J : Interval} (hrel : ∀ t, I.rel t = J.rel t) (hs : I.start = J.start) :
    I.startSeen = J.startSeen := by
  funext m
  simp only [Interval.startSeen, Interval.startOk, hrel, hs]

/-- `R` is the intersection of `A` and `B`: all three measure time in one frame (`relA`, `relB`), and `R` has the later
start and the earlier end. -/
structure Interval.IsMeet (R A B : Interval) : Prop where
  relA : ∀ t, R.rel t = A.rel t
  relB : ∀ t, R.rel t = B.rel t
  start : R.start = meetStart A.start B.start
  stop : R.stop = meetStop A.stop B.stop

theorem Bool.and_and_and_comm : ∀ a b c d : Bool, ((a && b) && (c && d)) = ((a && c) && (b && d)) := by decide

theorem List.any_or {α} (l : List α) (k f g : α → Bool) (h : ∀ x, k x = (f x || g x)) :
    l.any k = (l.any f || l.any g) := by
  induction l with
  | nil => rfl
  | cons x xs ih => simp only [List.any_cons, ih, h, Bool.or_assoc, Bool.or_left_comm]

namespace Interval.IsMeet
variable {R A B : Interval} (h : Interval.IsMeet R A B)
include h

theorem startOk (c : Int) : R.startOk c = (A.startOk c && B.startOk c) := by
  unfold Interval.startOk
  rw [h.start]
  cases A.start <;> cases B.start <;> simp [meetStart, Ext.above_max]

theorem atOrBeyondEnd (c : Int) : R.atOrBeyondEnd c = (A.atOrBeyondEnd c || B.atOrBeyondEnd c) := by
  unfold Interval.atOrBeyondEnd
  rw [h.stop]
  cases ha : A.stop <;> cases hb : B.stop <;> simp [meetStop]
  rename_i x y
  by_cases hxy : y < x <;> simp [hxy] <;> omega

theorem contains (t : Int) : R.contains t = (A.contains t && B.contains t) := by
  unfold Interval.contains
  rw [← h.relA, ← h.relB]
  cases R.rel t with
  | none => rfl
  | some c => simp only [h.startOk, h.atOrBeyondEnd, Bool.not_or, Bool.and_and_and_comm]

theorem endSeen (m : Msg) : R.endSeen m = (A.endSeen m || B.endSeen m) := by
  simp only [Interval.endSeen, ← h.relA, ← h.relB]
  cases m.p1? with
  | none => rfl
  | some t => cases hr : R.rel t <;> simp [hr, h.atOrBeyondEnd]

theorem startSeen (m : Msg) : R.startSeen m = (A.startSeen m && B.startSeen m) := by
  simp only [Interval.startSeen, ← h.relA, ← h.relB]
  cases m.p1? with
  | none => rfl
  | some t => cases hr : R.rel t <;> simp [hr, h.startOk]

/-- Of two messages, one at or after `A`'s start and one at or after `B`'s, the later is at or after both. -/
theorem startSeen_both {pre : List Msg} (ha : pre.any A.startSeen = true) (hb : pre.any B.startSeen = true) :
    pre.any R.startSeen = true := by
  obtain ⟨x, hx, h1⟩ := List.any_eq_true.mp ha
  obtain ⟨y, hy, h2⟩ := List.any_eq_true.mp hb
  obtain ⟨t1, _, hp1, _⟩ := Interval.sees_iff.mp h1
  obtain ⟨t2, _, hp2, _⟩ := Interval.sees_iff.mp h2
  rw [List.any_eq_true]
  rcases Int.le_total t1 t2 with hle | hle
  · have h3 : A.startSeen y = true := Interval.sees_mono Interval.startOk_mono hp1 hp2 hle h1
    exact ⟨y, hy, by rw [h.startSeen, h2, h3]; rfl⟩
  · have h3 : B.startSeen x = true := Interval.sees_mono Interval.startOk_mono hp2 hp1 hle h2
    exact ⟨x, hx, by rw [h.startSeen, h1, h3]; rfl⟩

/-- The start condition for a message without P1 time: a side with an open start does not constrain it. -/
theorem opened (pre : List Msg) : (R.start.isNone || pre.any R.startSeen) =
    ((A.start.isNone || pre.any A.startSeen) && (B.start.isNone || pre.any B.startSeen)) := by
  cases hA : A.start with
  | none =>
    have hRB : R.start = B.start := by rw [h.start, hA]; rfl
    rw [Interval.startSeen_congr h.relB hRB, hRB]; rfl
  | some x =>
    cases hB : B.start with
    | none =>
      have hRA : R.start = A.start := by rw [h.start, hA, hB]; rfl
      rw [Interval.startSeen_congr h.relA hRA, hRA, hA]; simp
    | some y =>
      rw [h.start, hA, hB, Bool.eq_iff_iff]
      simp only [meetStart, Option.isNone_some, Bool.false_or, Bool.and_eq_true]
      refine ⟨fun hr => ?_, fun ⟨ha, hb⟩ => h.startSeen_both ha hb⟩
      obtain ⟨m, hm, hs⟩ := List.any_eq_true.mp hr
      rw [h.startSeen, Bool.and_eq_true] at hs
      exact ⟨List.any_eq_true.mpr ⟨m, hm, hs.1⟩, List.any_eq_true.mpr ⟨m, hm, hs.2⟩⟩

theorem verdictC (pre : List Msg) (m : Msg) : R.verdictC pre m = (A.verdictC pre m && B.verdictC pre m) := by
  unfold Interval.verdictC
  cases m.p1? with
  | some t => exact h.contains t
  | none =>
    simp only
    rw [List.any_or pre _ _ _ h.endSeen, h.opened pre, Bool.not_or, Bool.and_and_and_comm]

theorem seqC {ms : List Msg} : ∀ {pre}, R.seqC pre ms = List.zipWith (· && ·) (A.seqC pre ms) (B.seqC pre ms) := by
  induction ms with
  | nil => intros; rfl
  | cons m ms ih =>
    intro pre
    simp only [Interval.seqC, List.zipWith_cons_cons]
    rw [ih, h.verdictC]

end Interval.IsMeet

theorem normStop_eq_endOf (e : Option Ext) : normStop e = endOf e := by
  cases e with
  | none => rfl
  | some x => cases x <;> rfl

theorem TimeRange.fresh_new (s e : BoundArg) (a : Option Bool) (z : Option Int) : (TimeRange.new s e a z).Fresh :=
  ⟨rfl, rfl, rfl⟩

theorem TimeRange.fresh_restart {r : TimeRange} (h : r.WF) : r.restart.Fresh := ⟨h, rfl, rfl⟩

theorem TimeRange.fresh_meet {a : TimeRange} (b : TimeRange) (ha : a.Fresh) : (a.meet b).Fresh :=
  ⟨rfl, ha.started, ha.ended⟩

theorem TimeRange.run_wf {r : TimeRange} (retTs : Bool) (ms : List Msg) (h : r.WF) : (r.run retTs ms).1.WF := by
  obtain ⟨st, en, h'⟩ := r.run_state retTs ms
  rw [h']; exact h

theorem TimeRange.makeAbsolute_ok {r r' : TimeRange} {p : Option Int} (h : r.makeAbsolute p = .ok r') :
    (r.absolute = true ∧ r' = { r with t0 := if p.isSome ∧ r.t0.isNone then p else r.t0 }) ∨
    (r.absolute = false ∧ ∃ z, (if p.isSome ∧ r.t0.isNone then p else r.t0) = some z ∧
      r' = { r with t0 := some z, start := r.start.map (·.add z), stop := r.stop.map (· + z), absolute := true }) := by
  unfold TimeRange.makeAbsolute at h
  cases ha : r.absolute with
  | true => rw [ha, if_pos rfl] at h; exact Or.inl ⟨rfl, (Except.ok.inj h).symm⟩
  | false =>
    rw [ha, if_neg Bool.false_ne_true] at h
    cases hz : (if p.isSome ∧ r.t0.isNone then p else r.t0) with
    | none => rw [hz] at h; cases h
    | some z => rw [hz] at h; exact Or.inr ⟨rfl, z, rfl, (Except.ok.inj h).symm⟩

theorem TimeRange.makeAbsolute_keeps {r r' : TimeRange} {p : Option Int} (h : r.makeAbsolute p = .ok r') :
    r'.absolute = true ∧ r'.specified = r.specified ∧ r'.started = r.started ∧ r'.ended = r.ended := by
  rcases TimeRange.makeAbsolute_ok h with ⟨ha, h⟩ | ⟨_, z, _, h⟩ <;> subst h
  · exact ⟨ha, rfl, rfl, rfl⟩
  · exact ⟨rfl, rfl, rfl, rfl⟩

theorem TimeRange.fresh_makeAbsolute {r r' : TimeRange} {p : Option Int} (hf : r.Fresh)
    (h : r.makeAbsolute p = .ok r') : r'.Fresh := by
  obtain ⟨_, _, hst, hen⟩ := TimeRange.makeAbsolute_keeps h
  refine ⟨?_, hst.trans hf.started, hen.trans hf.ended⟩
  rcases TimeRange.makeAbsolute_ok h with ⟨_, h⟩ | ⟨_, z, _, h⟩ <;> subst h
  · exact hf.wf
  · simpa [TimeRange.WF] using hf.wf

/-- `make_absolute` does not change what the range answers, from whatever state and on whatever sequence, provided
the `t0` used for the conversion is the origin the relative range has on that sequence. -/
theorem TimeRange.makeAbsolute_run {r r' : TimeRange} {p : Option Int} (retTs : Bool) (msgs : List Msg)
    (h : r.makeAbsolute p = .ok r')
    (horigin : r.absolute = false → orElse r.t0 (firstP1 msgs) = (if p.isSome ∧ r.t0.isNone then p else r.t0)) :
    (r'.run retTs msgs).2 = (r.run retTs msgs).2 := by
  obtain ⟨_, hs', hst, hen⟩ := TimeRange.makeAbsolute_keeps h
  cases hs : r.specified with
  | false => rw [TimeRange.run_unspecified retTs hs, TimeRange.run_unspecified retTs (hs'.trans hs)]
  | true =>
    refine (TimeRange.run_equiv retTs hs (hs'.trans hs) hst.symm hen.symm ?_).symm
    unfold TimeRange.interval
    rcases TimeRange.makeAbsolute_ok h with ⟨ha, h⟩ | ⟨ha, z, hz, h⟩ <;> subst h
    · -- absolute: the two intervals differ in `origin` only, which `rel` does not read then
      rw [ha]; exact ⟨fun _ => rfl, fun _ => rfl, fun _ => rfl, rfl⟩
    · rw [horigin ha, hz, ha]; exact Interval.equiv_shift _ _ _ _

theorem TimeRange.meet_t0 (a b : TimeRange) : (a.meet b).t0 = orElse a.t0 b.t0 := by
  unfold TimeRange.meet orElse; cases a.t0 <;> rfl

theorem TimeRange.meet_absolute (a b : TimeRange) : (a.meet b).absolute = a.absolute := rfl

theorem TimeRange.meet_isMeet {a b : TimeRange} {msgs : List Msg} (hab : a.absolute = b.absolute)
    (ho : a.absolute = false → orElse a.t0 (firstP1 msgs) = orElse b.t0 (firstP1 msgs)) :
    Interval.IsMeet ((a.meet b).interval msgs) (a.interval msgs) (b.interval msgs) := by
  have hrel : ∀ t, ((a.meet b).interval msgs).rel t = (a.interval msgs).rel t := by
    intro t
    unfold Interval.rel TimeRange.interval
    cases haa : a.absolute with
    | true => simp [TimeRange.meet_absolute, haa]
    | false =>
      simp only [TimeRange.meet_absolute, haa, TimeRange.meet_t0, orElse_assoc]
      cases hat : a.t0 with
      | some z => rfl
      | none => rw [← ho haa, hat]; rfl
  refine ⟨hrel, fun t => (hrel t).trans ?_, rfl, rfl⟩
  unfold Interval.rel TimeRange.interval
  cases haa : a.absolute with
  | true => simp [← hab, haa]
  | false => simp [← hab, haa, ho haa]

/-- The conversion at the head of `intersect`, seen from one of the two ranges: the relative range of a mixed pair is
converted with the `t0` of the absolute one. -/
def TimeRange.promote (r o : TimeRange) : Except TRErr TimeRange :=
  if r.absolute = false ∧ o.absolute = true then r.makeAbsolute o.t0 else .ok r

theorem TimeRange.intersect_eq (a b : TimeRange) :
    a.intersect b = (b.promote a).bind fun b' => (a.promote b).bind fun a' => .ok (a'.meet b') := by
  unfold TimeRange.intersect TimeRange.promote
  cases a.absolute <;> cases b.absolute <;> simp [Except.bind]
  · cases a.makeAbsolute b.t0 <;> rfl
  · cases b.makeAbsolute a.t0 <;> rfl

theorem TimeRange.intersect_ok {a b c : TimeRange} (h : a.intersect b = .ok c) :
    ∃ a' b', a.promote b = .ok a' ∧ b.promote a = .ok b' ∧ c = a'.meet b' := by
  rw [TimeRange.intersect_eq] at h
  cases hb : b.promote a with
  | error e => rw [hb] at h; cases h
  | ok b' =>
    cases ha : a.promote b with
    | error e => rw [hb, ha] at h; cases h
    | ok a' => rw [hb, ha] at h; injection h with h; exact ⟨a', b', rfl, rfl, h.symm⟩

theorem TimeRange.promote_ok {r o r' : TimeRange} (h : r.promote o = .ok r') :
    (r' = r ∧ ¬(r.absolute = false ∧ o.absolute = true)) ∨
    (r.absolute = false ∧ o.absolute = true ∧ r.makeAbsolute o.t0 = .ok r') := by
  unfold TimeRange.promote at h
  split at h
  · rename_i hc; exact Or.inr ⟨hc.1, hc.2, h⟩
  · rename_i hc; injection h with h; exact Or.inl ⟨h.symm, hc⟩

theorem TimeRange.promote_fresh {r o r' : TimeRange} (hf : r.Fresh) (h : r.promote o = .ok r') : r'.Fresh := by
  rcases TimeRange.promote_ok h with ⟨rfl, _⟩ | ⟨_, _, h⟩
  · exact hf
  · exact TimeRange.fresh_makeAbsolute hf h

theorem TimeRange.promote_absolute {r o r' : TimeRange} (h : r.promote o = .ok r') :
    r'.absolute = (r.absolute || o.absolute) := by
  rcases TimeRange.promote_ok h with ⟨rfl, hn⟩ | ⟨hr, ho, h⟩
  · cases hr : r'.absolute with
    | true => rfl
    | false => cases ho : o.absolute with
      | false => rfl
      | true => exact absurd ⟨hr, ho⟩ hn
  · rw [(TimeRange.makeAbsolute_keeps h).1, ho, Bool.or_true]

theorem TimeRange.promote_run {r o r' : TimeRange} (retTs : Bool) (msgs : List Msg) (h : r.promote o = .ok r')
    (hc : Compatible r o msgs) : (r'.run retTs msgs).2 = (r.run retTs msgs).2 := by
  rcases TimeRange.promote_ok h with ⟨rfl, _⟩ | ⟨hr, hoa, h⟩
  · rfl
  · refine TimeRange.makeAbsolute_run retTs msgs h fun _ => ?_
    simp only [Compatible, hr, hoa] at hc
    rw [ite_eq_orElse]
    cases ht : r.t0 with
    | some z => rfl
    | none => exact (hc ht).symm

theorem Compatible.symm {a b : TimeRange} {msgs : List Msg} (h : Compatible a b msgs) : Compatible b a msgs := by
  unfold Compatible at h ⊢
  revert h
  cases a.absolute <;> cases b.absolute
  · exact Eq.symm
  · exact id
  · exact id
  · exact id

theorem TimeRange.intersect_run {a b c : TimeRange} (retTs : Bool) (msgs : List Msg) (ha : a.Fresh) (hb : b.Fresh)
    (hc : a.intersect b = .ok c) (hcompat : Compatible a b msgs) (hmono : Monotone msgs) :
    (c.run retTs msgs).2 = List.zipWith (· && ·) (a.run retTs msgs).2 (b.run retTs msgs).2 := by
  obtain ⟨a', b', ha', hb', rfl⟩ := TimeRange.intersect_ok hc
  have hfa := TimeRange.promote_fresh ha ha'
  have hfb := TimeRange.promote_fresh hb hb'
  rw [← TimeRange.promote_run retTs msgs ha' hcompat, ← TimeRange.promote_run retTs msgs hb' hcompat.symm,
    TimeRange.run_refines _ retTs msgs (TimeRange.fresh_meet b' hfa) hmono,
    TimeRange.run_refines _ retTs msgs hfa hmono, TimeRange.run_refines _ retTs msgs hfb hmono]
  simp only [Interval.seq_eq_seqC]
  have haa := TimeRange.promote_absolute ha'
  have hbb := TimeRange.promote_absolute hb'
  refine (TimeRange.meet_isMeet (by rw [haa, hbb, Bool.or_comm]) fun hr => ?_).seqC
  -- both still relative: neither was converted
  rw [haa, Bool.or_eq_false_iff] at hr
  rcases TimeRange.promote_ok ha' with ⟨rfl, _⟩ | ⟨_, h, _⟩
  · rcases TimeRange.promote_ok hb' with ⟨rfl, _⟩ | ⟨_, h, _⟩
    · simpa only [Compatible, hr.1, hr.2] using hcompat
    · rw [hr.1] at h; cases h
  · rw [hr.2] at h; cases h

theorem TimeRange.makeAbsolute_restart {r r' : TimeRange} {p : Option Int} (h : r.makeAbsolute p = .ok r') :
    r.restart.makeAbsolute p = .ok r'.restart := by
  rcases TimeRange.makeAbsolute_ok h with ⟨ha, rfl⟩ | ⟨ha, z, hz, rfl⟩
  · simp [TimeRange.makeAbsolute, TimeRange.restart, ha]
  · simp only [TimeRange.makeAbsolute, TimeRange.restart, ha, hz, Bool.false_eq_true, if_false]

theorem TimeRange.promote_restart {r o r' : TimeRange} (h : r.promote o = .ok r') :
    r.restart.promote o.restart = .ok r'.restart := by
  unfold TimeRange.promote
  rcases TimeRange.promote_ok h with ⟨rfl, hn⟩ | ⟨hr, ho, h⟩
  · exact if_neg hn
  · exact (if_pos ⟨hr, ho⟩).trans (TimeRange.makeAbsolute_restart h)

/-- `intersect` looks at the latches of neither range and hands the receiver's on unchanged: clearing them before
or after is the same. -/
theorem TimeRange.intersect_restart {x y c : TimeRange} (h : x.intersect y = .ok c) :
    x.restart.intersect y.restart = .ok c.restart := by
  obtain ⟨a', b', ha', hb', rfl⟩ := TimeRange.intersect_ok h
  rw [TimeRange.intersect_eq, TimeRange.promote_restart hb', TimeRange.promote_restart ha']
  rfl

theorem optBound_seconds (x : Option Ext) : (optBound x).seconds = x := by cases x <;> rfl

theorem optBound_isTs (x : Option Ext) : (optBound x).isTs = false := by cases x <;> rfl

/-- There is one kind of error, so a failure anywhere is that failure. -/
theorem bind_valueError {α β} (x : Except TRErr α) :
    (x.bind fun _ => (.error .valueError : Except TRErr β)) = .error .valueError := by
  cases x with
  | error e => cases e; rfl
  | ok _ => rfl

section
variable {flt : String → Option FloatVal}

theorem strToTime_error {s : String} (h1 : s ≠ "") (h2 : flt s = none) : strToTime flt s = .error .valueError := by
  unfold strToTime
  rw [if_neg h1, h2]

theorem parseType_long {parts : List String} (a : Option Bool) (h : parts.length > 3) :
    parseType parts a = .error .valueError := by
  unfold parseType
  split
  · cases Nat.lt_irrefl 3 h
  · exact if_pos h

theorem TimeRange.parseParts_type_error {parts : List String} {a : Option Bool}
    (h : parseType parts a = .error .valueError) : TimeRange.parseParts flt parts a = .error .valueError := by
  unfold TimeRange.parseParts
  rw [h]

theorem TimeRange.parseParts_cons_cons (s e : String) (rest : List String) (a : Option Bool) :
    TimeRange.parseParts flt (s :: e :: rest) a =
      (parseType (s :: e :: rest) a).bind fun ab => (strToTime flt s).bind fun s' => (strToTime flt e).bind fun e' =>
        .ok (TimeRange.new (optBound s') (optBound e') ab none) := by
  unfold TimeRange.parseParts
  cases parseType (s :: e :: rest) a with
  | error _ => rfl
  | ok ab =>
    simp only
    cases strToTime flt s with
    | error _ => rfl
    | ok s' => cases strToTime flt e <;> rfl

end

/-- `is_in_range` is shown a P1 time exactly when `get_p1_time()` returns a valid `Timestamp`. -/
theorem Obj.msg_p1 (o : Obj) : o.msg.p1? = o.getP1Time.join := by
  cases o with
  | raw => rfl
  | meas d => simp only [Obj.msg]; cases (Obj.meas d).getP1Time with
    | none => rfl
    | some x => cases x <;> rfl
  | plain p1 sys => simp only [Obj.msg]; cases (Obj.plain p1 sys).getP1Time with
    | none => rfl
    | some x => cases x <;> rfl

theorem Obj.getP1Time_meas (d : Details) :
    (Obj.meas d).getP1Time.join = if d.source = .p1Time then d.measurementTime else d.p1Time := rfl

theorem Obj.docMsg_p1 (o : Obj) : o.docMsg.p1? = o.docP1 := by
  unfold Obj.docMsg
  cases o.docP1 <;> rfl

theorem TimeRange.isInRange_congr (r : TimeRange) (retTs : Bool) {m m' : Msg} (h : m.p1? = m'.p1?) :
    r.isInRange retTs m = r.isInRange retTs m' := by
  unfold TimeRange.isInRange TimeRange.extract
  rw [h]

theorem TimeRange.run_congr (retTs : Bool) {α} (f g : α → Msg) {xs : List α} :
    ∀ (r : TimeRange), (∀ x ∈ xs, (f x).p1? = (g x).p1?) → r.run retTs (xs.map f) = r.run retTs (xs.map g) := by
  induction xs with
  | nil => intros; rfl
  | cons x xs ih =>
    intro r h
    have hx := TimeRange.isInRange_congr r retTs (h x (by simp))
    simp only [List.map_cons, TimeRange.run]
    rw [hx, ih _ (fun y hy => h y (by simp [hy]))]

theorem Interval.seqFrom_length (I : Interval) {ms : List Msg} : ∀ {pre acc}, (I.seqFrom pre acc ms).length = ms.length := by
  induction ms with
  | nil => intros; rfl
  | cons m ms ih => intros; simp [Interval.seqFrom, ih]

theorem Interval.seqFrom_getElem (I : Interval) {ms : List Msg} : ∀ {pre acc} (i : Nat) (hi : i < ms.length),
    (I.seqFrom pre acc ms)[i]'(by rw [I.seqFrom_length]; exact hi) =
      I.verdict (pre ++ ms.take i) (acc ++ (I.seqFrom pre acc ms).take i) ms[i] := by
  induction ms with
  | nil => intro _ _ i hi; cases hi
  | cons m ms ih =>
    intro pre acc i hi
    cases i with
    | zero => simp [Interval.seqFrom]
    | succ i =>
      simp only [Interval.seqFrom, List.getElem_cons_succ, List.take_succ_cons]
      rw [ih i (by simpa using hi)]
      simp [List.append_assoc]

end FeVerif.TR
