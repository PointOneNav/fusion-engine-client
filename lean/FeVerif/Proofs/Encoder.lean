/-
Lemmas about the encoder model (Model/Encoder.lean): header pack/parse round trip, `pack(payload=…)` and
`encode_message` as equations, and what the bytes of a successful call are: exactly framed, with a matching CRC.
-/
import FeVerif.Proofs.Crc
import FeVerif.Proofs.Bytes
import FeVerif.Model.Encoder
import FeVerif.Spec.Integrity
namespace FeVerif

theorem packHeader_length (h : Header) : (packHeader h).length = 24 := by
  simp [packHeader]

theorem structFits_iff (h : Header) : structFits h = true ↔
    h.sync0 < 256 ∧ h.sync1 < 256 ∧ h.reserved < 65536 ∧ h.crc < 4294967296 ∧ h.protocolVersion < 256 ∧
    h.messageVersion < 256 ∧ h.messageType < 65536 ∧ h.sequenceNumber < 4294967296 ∧
    h.payloadSize < 4294967296 ∧ h.sourceId < 4294967296 := by
  simp only [structFits, Bool.and_eq_true, decide_eq_true_eq, and_assoc]

theorem parse_pack (h : Header) (p : Bytes) (hf : structFits h = true) :
    parseHeader (packHeader h ++ p) = h := by
  cases h
  simp only [structFits_iff] at hf
  obtain ⟨h0, h1, h2, h3, h4, h5, h6, h7, h8, h9⟩ := hf
  simp only [parseHeader, packHeader, leBytes, List.cons_append, List.nil_append, byteAt, u16le, u32le,
    List.getD_cons_zero, List.getD_cons_succ, toNat_ofNat_mod, Header.mk.injEq]
  have d2 {v : Nat} (h : v < 65536) := (digits2 v).trans (Nat.mod_eq_of_lt h)
  have d4 {v : Nat} (h : v < 4294967296) := (digits4 v).trans (Nat.mod_eq_of_lt h)
  exact ⟨Nat.mod_eq_of_lt h0, Nat.mod_eq_of_lt h1, d2 h2, d4 h3, Nat.mod_eq_of_lt h4,
    Nat.mod_eq_of_lt h5, d2 h6, d4 h7, d4 h8, d4 h9⟩

theorem packHeader_drop8 (h : Header) (c : Nat) :
    (packHeader { h with crc := c }).drop 8 = (packHeader h).drop 8 := by
  simp only [packHeader, leBytes, List.cons_append, List.nil_append, List.drop_succ_cons, List.drop_zero]

theorem exactMsg_pack {H : Header} {p : Bytes} (hf : structFits H = true) (hs : H.payloadSize = p.length) :
    ExactMsg (packHeader H ++ p) := by
  show _ = HDR + (parseHeader (packHeader H ++ p)).payloadSize
  rw [parse_pack H p hf, hs, List.length_append, packHeader_length]; rfl

theorem crcMatches_pack {H : Header} {p : Bytes} (hf : structFits H = true)
    (hc : H.crc = (crc32 0#32 ((packHeader H).drop 8 ++ p)).toNat) : CrcMatches (packHeader H ++ p) := by
  show _ = (parseHeader (packHeader H ++ p)).crc
  rw [parse_pack H p hf, hc, List.drop_append_of_le_length (by rw [packHeader_length]; decide)]

theorem pyHeaderPack_ok {h : Header} (hf : structFits (pyPackArgs h) = true) :
    pyHeaderPack h = .ok (packHeader (pyPackArgs h)) := if_pos hf

theorem pyHeaderPack_err {h : Header} (hf : ¬ structFits (pyPackArgs h) = true) :
    pyHeaderPack h = .error .structError := if_neg hf

/-- The CRC `calculate_crc` stores for header object `h` and `payload`: two `crc32` calls, the second continuing
the first. -/
def pyMessageCrc (h : Header) (payload : Bytes) : W32 :=
  crc32 (crc32 0#32 ((packHeader (pyPackArgs { h with payloadSize := payload.length })).drop 8)) payload

/-- The header `pack(payload=...)` writes. -/
def pyFinalHeader (h : Header) (payload : Bytes) : Header :=
  pyPackArgs { h with payloadSize := payload.length, crc := (pyMessageCrc h payload).toNat }

/-- A CRC value always fits its field: if the header packs for the CRC computation, it packs with the CRC. -/
theorem structFits_pyFinalHeader {h : Header} {p : Bytes}
    (hf : structFits (pyPackArgs { h with payloadSize := p.length }) = true) :
    structFits (pyFinalHeader h p) = true := by
  rw [structFits_iff] at hf ⊢
  exact ⟨hf.1, hf.2.1, hf.2.2.1, (pyMessageCrc h p).isLt, hf.2.2.2.2⟩

theorem pyCalculateCrc_ok {h : Header} {p : Bytes}
    (hf : structFits (pyPackArgs { h with payloadSize := p.length }) = true) :
    pyCalculateCrc h p = .ok { h with payloadSize := p.length, crc := (pyMessageCrc h p).toNat } := by
  unfold pyCalculateCrc; rw [pyHeaderPack_ok hf]; rfl

theorem pyPackMessage_eq (h : Header) (p : Bytes) :
    pyPackMessage h p =
      if structFits (pyPackArgs { h with payloadSize := p.length }) = true
      then .ok (packHeader (pyFinalHeader h p) ++ p) else .error .structError := by
  unfold pyPackMessage
  by_cases hf : structFits (pyPackArgs { h with payloadSize := p.length }) = true
  · rw [if_pos hf, pyCalculateCrc_ok hf]
    simp only []
    rw [pyHeaderPack_ok (structFits_pyFinalHeader hf)]
    rfl
  · rw [if_neg hf]; unfold pyCalculateCrc; rw [pyHeaderPack_err hf]

/-- The stored CRC is that of the written header's own bytes `[8, 24)` followed by the payload. -/
theorem pyFinalHeader_crc (h : Header) (p : Bytes) :
    (pyFinalHeader h p).crc = (crc32 0#32 ((packHeader (pyFinalHeader h p)).drop 8 ++ p)).toNat := by
  rw [crc32_append]
  exact congrArg (fun t => (crc32 (crc32 0#32 t) p).toNat)
    (packHeader_drop8 (pyPackArgs { h with payloadSize := p.length }) (pyMessageCrc h p).toNat).symm

/-- The arguments of a call fit the header's wire types. -/
def EncFits (e : Encoder) (type version source : Nat) (p : Bytes) : Prop :=
  e.sequenceNumber < 4294967296 ∧ type < 65536 ∧ version < 256 ∧ source < 4294967296 ∧ p.length < 4294967296

theorem structFits_enc (e : Encoder) (type version source : Nat) (p : Bytes) :
    structFits (pyPackArgs { encHeader e type version source with payloadSize := p.length }) = true ↔
      EncFits e type version source p := by
  simp only [structFits_iff, pyPackArgs, encHeader, pyHeaderInit, SYNC0, SYNC1, EncFits]
  omega

/-- The bytes a successful call returns. -/
def encOutput (e : Encoder) (type version source : Nat) (p : Bytes) : Bytes :=
  packHeader (pyFinalHeader (encHeader e type version source) p) ++ p

section
variable {e : Encoder} {type version source : Nat} {p : Bytes}

theorem encodeMessage_ok (h : EncFits e type version source p) :
    encodeMessage e type version source (some p) =
      (.ok (encOutput e type version source p), ⟨(e.sequenceNumber + 1) % 4294967296⟩) := by
  unfold encodeMessage
  simp only []
  rw [pyPackMessage_eq, if_pos ((structFits_enc e type version source p).2 h)]
  rfl

theorem encodeMessage_err (h : ¬ EncFits e type version source p) :
    encodeMessage e type version source (some p) = (.error .structError, e) := by
  unfold encodeMessage
  simp only []
  rw [pyPackMessage_eq, if_neg (fun hf => h ((structFits_enc e type version source p).1 hf))]

theorem encOutput_length : (encOutput e type version source p).length = HDR + p.length := by
  rw [encOutput, List.length_append, packHeader_length]; rfl

theorem encOutput_drop : (encOutput e type version source p).drop HDR = p :=
  List.drop_left' (packHeader_length _)

theorem structFits_pyFinalHeader_enc (h : EncFits e type version source p) :
    structFits (pyFinalHeader (encHeader e type version source) p) = true :=
  structFits_pyFinalHeader ((structFits_enc e type version source p).2 h)

theorem parseHeader_encOutput (h : EncFits e type version source p) :
    parseHeader (encOutput e type version source p) =
      { sync0 := SYNC0, sync1 := SYNC1, reserved := 0,
        crc := (pyMessageCrc (encHeader e type version source) p).toNat, protocolVersion := 2,
        messageVersion := version, messageType := type, sequenceNumber := e.sequenceNumber,
        payloadSize := p.length, sourceId := source } :=
  parse_pack (pyFinalHeader (encHeader e type version source) p) p (structFits_pyFinalHeader_enc h)

theorem exactMsg_encOutput (h : EncFits e type version source p) : ExactMsg (encOutput e type version source p) :=
  exactMsg_pack (structFits_pyFinalHeader_enc h) rfl

theorem crcMatches_encOutput (h : EncFits e type version source p) :
    CrcMatches (encOutput e type version source p) :=
  crcMatches_pack (structFits_pyFinalHeader_enc h) (pyFinalHeader_crc _ p)

end

theorem okOutputs_cons_ok {e e' : Encoder} {c : EncCall} {cs : List EncCall} {out : Bytes}
    (h : encodeCall e c = (.ok out, e')) :
    okOutputs (encodeAll e (c :: cs)) = out :: okOutputs (encodeAll e' cs) := by
  show okOutputs ((encodeCall e c).1 :: encodeAll (encodeCall e c).2 cs) = _
  rw [h]; rfl

theorem okOutputs_cons_err {e e' : Encoder} {c : EncCall} {cs : List EncCall} {x : PyErr}
    (h : encodeCall e c = (.error x, e')) :
    okOutputs (encodeAll e (c :: cs)) = okOutputs (encodeAll e' cs) := by
  show okOutputs ((encodeCall e c).1 :: encodeAll (encodeCall e c).2 cs) = _
  rw [h]; rfl

theorem encodeCall_cases (e : Encoder) (c : EncCall) :
    (∃ x, encodeCall e c = (.error x, e)) ∨
    (∃ s p, c.sourceArg = Int.ofNat s ∧ c.payload = some p ∧ EncFits e c.type c.version s p ∧
      encodeCall e c = (.ok (encOutput e c.type c.version s p), ⟨(e.sequenceNumber + 1) % 4294967296⟩)) := by
  unfold encodeCall
  cases hp : c.payload with
  | none => exact .inl ⟨_, rfl⟩
  | some p =>
    cases hs : c.sourceArg with
    | negSucc n => exact .inl ⟨_, rfl⟩
    | ofNat s =>
      by_cases hfit : EncFits e c.type c.version s p
      · exact .inr ⟨s, p, rfl, rfl, hfit, encodeMessage_ok hfit⟩
      · exact .inl ⟨_, encodeMessage_err hfit⟩

end FeVerif
