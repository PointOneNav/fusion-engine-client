/-
C03 — decision procedures for the relations of Spec/C03.lean (so that the kernel can decide them over the
generated tables) and the injectivity of the name encoding.
-/
import FeVerif.Spec.C03

namespace FeVerif.C03

instance decSameMembers (a b : Members) : Decidable (SameMembers a b) :=
  decidable_of_iff ((∀ x ∈ a, x ∈ b) ∧ (∀ x ∈ b, x ∈ a))
    ⟨fun h nv => ⟨h.1 nv, h.2 nv⟩, fun h => ⟨fun x hx => (h x).1 hx, fun x hx => (h x).2 hx⟩⟩

instance decExSome {α β : Type} (A : Option α) (B : Option β) (P : α → β → Prop) [∀ c q, Decidable (P c q)] :
    Decidable (∃ c q, A = some c ∧ B = some q ∧ P c q) :=
  match A, B with
  | some c, some q =>
    if h : P c q then isTrue ⟨c, q, rfl, rfl, h⟩
    else isFalse (by rintro ⟨c', q', hc, hq, hp⟩; cases hc; cases hq; exact h hp)
  | none, _ => isFalse (by rintro ⟨_, _, hc, _, _⟩; cases hc)
  | some _, none => isFalse (by rintro ⟨_, _, _, hq, _⟩; cases hq)

instance decPairAgrees (p : Pair) : Decidable (PairAgrees p) := decExSome _ _ _

instance decSentinelsJustified (p : Pair) : Decidable (SentinelsJustified p) := decExSome _ _ _

instance decCoversByValue (c v : Members) : Decidable (CoversByValue c v) := by
  unfold CoversByValue; infer_instance

instance decViewRel : ∀ (b : Bool) (c q : Members), Decidable (ViewRel b c q)
  | false, c, q => decSameMembers c q
  | true, c, q => decCoversByValue c q

instance decViewAgrees (b : Bool) (view : List (Nat × Members)) (p : Pair) : Decidable (ViewAgrees b view p) :=
  decExSome _ _ _

instance decTheOnly (l : List Decl) (Q : Decl → Prop) [DecidablePred Q] : Decidable (TheOnly l Q) :=
  match l with
  | [k] =>
    if h : Q k then isTrue ⟨k, rfl, h⟩
    else isFalse (by rintro ⟨k', hk, hq⟩; cases hk; exact h hq)
  | [] => isFalse (by rintro ⟨_, hk, _⟩; cases hk)
  | _ :: _ :: _ => isFalse (by rintro ⟨_, hk, _⟩; cases hk)

theorem ViewRel.of_sameMembers {c q : Members} (h : SameMembers c q) : ∀ b, ViewRel b c q
  | false => h
  | true => ⟨fun nv hq => (h nv).2 hq, fun nv hc => ⟨nv, (h nv).1 hc, rfl⟩⟩

/-- A view that shows an enumeration as the import-time table `Py.enums` does agrees with C++ because that table does. -/
theorem ViewAgrees.of_pairAgrees {p : Pair} (h : PairAgrees p) (b : Bool) {view : List (Nat × Members)}
    (hv : lookup p.py view = lookup p.py Py.enums) : ViewAgrees b view p := by
  obtain ⟨c, q, hc, hq, hs⟩ := h
  exact ⟨c, q, hc, hv ▸ hq, ViewRel.of_sameMembers hs b⟩

/-- `TheOnly` means what it says: exactly one declaration, not even an identical second one. -/
theorem theOnly_iff (l : List Decl) (Q : Decl → Prop) :
    TheOnly l Q ↔ ∃ k, k ∈ l ∧ Q k ∧ (∀ k' ∈ l, k' = k) ∧ l.length = 1 := by
  constructor
  · rintro ⟨k, rfl, hq⟩
    exact ⟨k, by simp, hq, by simp, rfl⟩
  · rintro ⟨k, hk, hq, hall, hlen⟩
    match l, hlen with
    | [a], _ =>
      have : a = k := hall a (by simp)
      exact ⟨k, by rw [this], hq⟩

def encode (bs : List Nat) : Nat := bs.foldl (fun a b => a * 256 + b) 0

theorem encode_append_singleton (bs : List Nat) (b : Nat) : encode (bs ++ [b]) = encode bs * 256 + b := by
  simp [encode, List.foldl_append]

/-- Induction from the end of a list: `encode` is a left fold. -/
theorem snocInduction {α : Type} {P : List α → Prop} (nil : P []) (snoc : ∀ l a, P l → P (l ++ [a])) (l : List α) :
    P l := by
  rw [← l.reverse_reverse]
  induction l.reverse with
  | nil => exact nil
  | cons a t ih => rw [List.reverse_cons]; exact snoc _ _ ih

theorem head?_snoc {l : List Nat} {b z : Nat} (h : b ∈ l.head?) : b ∈ (l ++ [z]).head? := by
  rw [List.head?_append, Option.mem_def.1 h]; rfl

theorem encode_pos_of_head (bs : List Nat) (h : ∀ b ∈ bs.head?, 0 < b) (hne : bs ≠ []) : 0 < encode bs := by
  induction bs using snocInduction with
  | nil => exact absurd rfl hne
  | snoc xs x ih =>
    rw [encode_append_singleton]
    cases xs with
    | nil => have := h x (by simp); omega
    | cons y ys =>
      have := ih (fun b hb => h b (head?_snoc hb)) (by simp)
      omega

/-- Two byte strings without a leading NUL byte and with the same code are equal: equality of name codes in the
generated tables is equality of names. -/
theorem encode_injective (xs ys : List Nat) (hx : ∀ b ∈ xs, b < 256) (hy : ∀ b ∈ ys, b < 256)
    (hx0 : ∀ b ∈ xs.head?, 0 < b) (hy0 : ∀ b ∈ ys.head?, 0 < b) (h : encode xs = encode ys) : xs = ys := by
  -- Peel the last byte of both: the codes are `encode xs' * 256 + x = encode ys' * 256 + y` with `x, y < 256`, so
  -- remainder and quotient by 256 give `x = y` and equal codes of the prefixes.  A code 0 belongs to the empty
  -- string only (`encode_pos_of_head`); the no-leading-NUL condition passes to a prefix because its head, if it
  -- has one, is the head of the whole.
  induction xs using snocInduction generalizing ys with
  | nil =>
    cases ys with
    | nil => rfl
    | cons y ys' =>
      have := encode_pos_of_head (y :: ys') hy0 (by simp)
      simp [encode] at h
      simp [encode] at this
      omega
  | snoc xs' x ih =>
    induction ys using snocInduction with
    | nil =>
      have := encode_pos_of_head (xs' ++ [x]) hx0 (by simp)
      rw [h] at this
      simp [encode] at this
    | snoc ys' y _ =>
      rw [encode_append_singleton, encode_append_singleton] at h
      have hxl : x < 256 := hx x (by simp)
      have hyl : y < 256 := hy y (by simp)
      have hxy : x = y := by omega
      have hrest : encode xs' = encode ys' := by omega
      have := ih ys' (fun b hb => hx b (by simp [hb])) (fun b hb => hy b (by simp [hb]))
        (fun b hb => hx0 b (head?_snoc hb)) (fun b hb => hy0 b (head?_snoc hb)) hrest
      rw [this, hxy]

end FeVerif.C03
