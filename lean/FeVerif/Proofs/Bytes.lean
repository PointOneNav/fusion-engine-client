/-
Reading bytes and little-endian integers: bounds, and how a read moves through `take`, `drop`, `++`, `set`
and the little-endian encoding `leBytes`.  Also two list facts both C++ framers share: the total size
`sumLen` of a list of messages, and `memmove` on a list (`memmove_list`).
-/
import FeVerif.Basic.Bytes

namespace FeVerif

theorem byteAt_lt (bs : Bytes) (i : Nat) : byteAt bs i < 256 := by
  unfold byteAt; exact UInt8.toNat_lt _

theorem u32le_lt (bs : Bytes) (i : Nat) : u32le bs i < 4294967296 := by
  unfold u32le
  have := byteAt_lt bs i; have := byteAt_lt bs (i + 1); have := byteAt_lt bs (i + 2); have := byteAt_lt bs (i + 3)
  omega

theorem u16le_eq_zero (bs : Bytes) (i : Nat) : u16le bs i = 0 ↔ (byteAt bs i = 0 ∧ byteAt bs (i + 1) = 0) := by
  unfold u16le; omega

theorem byteAt_take {bs : Bytes} {i k : Nat} (h : i < k) : byteAt (bs.take k) i = byteAt bs i := by
  simp [byteAt, List.getD, h]

theorem u16le_take {bs : Bytes} {i k : Nat} (h : i + 1 < k) : u16le (bs.take k) i = u16le bs i := by
  unfold u16le; rw [byteAt_take (by omega), byteAt_take (by omega)]

theorem u32le_take {bs : Bytes} {i k : Nat} (h : i + 3 < k) : u32le (bs.take k) i = u32le bs i := by
  unfold u32le
  rw [byteAt_take (by omega), byteAt_take (by omega), byteAt_take (by omega), byteAt_take (by omega)]

theorem byteAt_of_take {l w : Bytes} {k i : Nat} (h : l.take k = w) (hi : i < k) : byteAt l i = byteAt w i := by
  rw [← h, byteAt_take hi]

theorem u16le_of_take {l w : Bytes} {k i : Nat} (h : l.take k = w) (hi : i + 1 < k) : u16le l i = u16le w i := by
  rw [← h, u16le_take hi]

theorem u32le_of_take {l w : Bytes} {k i : Nat} (h : l.take k = w) (hi : i + 3 < k) : u32le l i = u32le w i := by
  rw [← h, u32le_take hi]

theorem take_set_succ (l : Bytes) (n : Nat) (b : Byte) (h : n < l.length) :
    (l.set n b).take (n + 1) = l.take n ++ [b] := by
  rw [List.take_add_one, List.take_set_of_le (Nat.le_refl n)]
  simp [h]

theorem byteAt_drop (bs : Bytes) (i k : Nat) : byteAt (bs.drop i) k = byteAt bs (i + k) := by
  unfold byteAt; simp [List.getD_eq_getElem?_getD]

theorem u16le_drop (bs : Bytes) (i k : Nat) : u16le (bs.drop i) k = u16le bs (i + k) := by
  unfold u16le; rw [byteAt_drop, byteAt_drop]; rfl

theorem u32le_drop (bs : Bytes) (i k : Nat) : u32le (bs.drop i) k = u32le bs (i + k) := by
  unfold u32le; rw [byteAt_drop, byteAt_drop, byteAt_drop, byteAt_drop]; rfl

theorem u64le_drop (bs : Bytes) (i k : Nat) : u64le (bs.drop i) k = u64le bs (i + k) := by
  unfold u64le; rw [u32le_drop, u32le_drop, Nat.add_assoc]

theorem u16le_slice {file : Bytes} {b len k : Nat} (h : k + 1 < len) :
    u16le (slice file b len) k = u16le file (b + k) := by
  unfold slice; rw [u16le_take h, u16le_drop]

theorem slice_length {α} (l : List α) (b len : Nat) : (slice l b len).length = min len (l.length - b) := by
  unfold slice; simp

theorem slice_drop {α} (l : List α) (k o n : Nat) : slice (l.drop k) o n = slice l (o + k) n := by
  rw [slice, slice, List.drop_drop, Nat.add_comm]

theorem byteAt_append {a b : Bytes} {i : Nat} (h : i < a.length) : byteAt (a ++ b) i = byteAt a i := by
  unfold byteAt
  simp [List.getD_eq_getElem?_getD, List.getElem?_append_left h]

theorem u32le_append {a b : Bytes} {i : Nat} (h : i + 3 < a.length) : u32le (a ++ b) i = u32le a i := by
  unfold u32le
  rw [byteAt_append (by omega), byteAt_append (by omega), byteAt_append (by omega), byteAt_append (by omega)]

theorem u32le_shift {a b : Bytes} {n : Nat} (h : a.length = n) (i : Nat) : u32le (a ++ b) (n + i) = u32le b i := by
  rw [← u32le_drop, List.drop_left' h]

theorem byteAt_append_right (p : Bytes) (b : Byte) : byteAt (p ++ [b]) p.length = b.toNat := by
  unfold byteAt; simp [List.getD_eq_getElem?_getD]

theorem byteAt_cons_zero (b : Byte) (t : Bytes) : byteAt (b :: t) 0 = b.toNat := by
  simp [byteAt]

theorem u16le_skip (n v k : Nat) (rest : Bytes) : u16le (leBytes n v ++ rest) (n + k) = u16le rest k := by
  rw [← u16le_drop, List.drop_left' (leBytes_length n v)]

theorem u32le_skip (n v k : Nat) (rest : Bytes) : u32le (leBytes n v ++ rest) (n + k) = u32le rest k :=
  u32le_shift (leBytes_length n v) k

theorem u64le_skip (n v k : Nat) (rest : Bytes) : u64le (leBytes n v ++ rest) (n + k) = u64le rest k := by
  rw [← u64le_drop, List.drop_left' (leBytes_length n v)]

theorem toNat_ofNat_mod (v : Nat) : (UInt8.ofNat (v % 256)).toNat = v % 256 :=
  UInt8.toNat_ofNat_of_lt' (Nat.mod_lt v (by decide))

theorem digits2 (v : Nat) : v % 256 + 256 * (v / 256 % 256) = v % 65536 :=
  (Nat.mod_mul (a := 256) (b := 256)).symm

theorem digits4 (v : Nat) :
    v % 256 + 256 * (v / 256 % 256) + 65536 * (v / 256 / 256 % 256) + 16777216 * (v / 256 / 256 / 256 % 256) =
      v % 4294967296 := by
  rw [show (4294967296 : Nat) = 256 * (256 * (256 * 256)) from rfl, Nat.mod_mul, Nat.mod_mul, Nat.mod_mul]
  simp only [Nat.mul_add, ← Nat.mul_assoc, Nat.add_assoc, Nat.reduceMul]

theorem u16le_leBytes (v : Nat) (rest : Bytes) : u16le (leBytes 2 v ++ rest) 0 = v % 65536 := by
  simp only [u16le, byteAt, leBytes, List.cons_append, List.getD_cons_zero, List.getD_cons_succ, toNat_ofNat_mod]
  exact digits2 v

theorem u32le_leBytes (v : Nat) (rest : Bytes) : u32le (leBytes 4 v ++ rest) 0 = v % 4294967296 := by
  simp only [u32le, byteAt, leBytes, List.cons_append, List.getD_cons_zero, List.getD_cons_succ, toNat_ofNat_mod]
  exact digits4 v

theorem u64le_leBytes (v : Nat) (rest : Bytes) :
    u64le (leBytes 8 v ++ rest) 0 = v % 18446744073709551616 := by
  show u64le (leBytes 4 v ++ (leBytes 4 (v / 256 / 256 / 256 / 256) ++ rest)) 0 = _
  rw [u64le, u32le_leBytes, u32le_skip 4 _ 0, u32le_leBytes]
  simp only [Nat.div_div_eq_div_mul]
  exact Nat.mod_mul.symm

theorem u32le_four_inj {f g : Bytes} (hf : f.length = 4) (hg : g.length = 4) (h : u32le f 0 = u32le g 0) : f = g := by
  match f, hf, g, hg with
  | [a, b, c, d], _, [a', b', c', d'], _ =>
    simp only [u32le, byteAt, List.getD_cons_zero, List.getD_cons_succ] at h
    -- equal numbers have equal base-256 digits: take the lowest off, three times
    have step {x x' y y' : Nat} (hx : x < 256) (hx' : x' < 256) (e : x + 256 * y = x' + 256 * y') :
        x = x' ∧ y = y' := by omega
    obtain ⟨ea, h⟩ := step a.toNat_lt a'.toNat_lt (y := b.toNat + 256 * (c.toNat + 256 * d.toNat))
      (y' := b'.toNat + 256 * (c'.toNat + 256 * d'.toNat)) (by omega)
    obtain ⟨eb, h⟩ := step b.toNat_lt b'.toNat_lt h
    obtain ⟨ec, ed⟩ := step c.toNat_lt c'.toNat_lt h
    rw [UInt8.toNat_inj.1 ea, UInt8.toNat_inj.1 eb, UInt8.toNat_inj.1 ec, UInt8.toNat_inj.1 ed]

def sumLen (l : List Bytes) : Nat := (l.map List.length).sum

theorem sumLen_append (a b : List Bytes) : sumLen (a ++ b) = sumLen a + sumLen b := by simp [sumLen]

/-- `memmove(buf, buf + o, a - o)` on the bytes `l` at `buf`: the length stays, bytes `[o, a)` come to the front. -/
theorem memmove_list (l : Bytes) (o : Nat) {a : Nat} (ha : a ≤ l.length) :
    ((l.drop o).take (a - o) ++ l.drop (a - o)).length = l.length ∧
      ((l.drop o).take (a - o) ++ l.drop (a - o)).take (a - o) = (l.take a).drop o := by
  have hn : ((l.drop o).take (a - o)).length = a - o :=
    List.length_take_of_le (by rw [List.length_drop]; exact Nat.sub_le_sub_right ha o)
  constructor
  · rw [List.length_append, hn, List.length_drop, Nat.add_sub_cancel' (Nat.le_trans (Nat.sub_le a o) ha)]
  · rw [List.take_append_of_le_length (Nat.le_of_eq hn.symm), List.take_take, Nat.min_self, List.drop_take]

end FeVerif
