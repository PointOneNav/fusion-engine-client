/-
Two flipped bits at any distance below the period of the CRC-32 polynomial (2^32 - 1) leave a non-zero
linear remainder; one flipped data bit, in a buffer of fewer than 2^29 - 4 bytes, never has a single-bit remainder.
-/
import FeVerif.Proofs.CrcPeriod

namespace FeVerif

theorem crcBits_twoBits_ne_zero {bits : List Bool} (h : TwoBits bits) : crcBits 0#32 bits ≠ 0#32 := by
  obtain ⟨p, d, q, hd0, hd, rfl⟩ := h
  -- the first bit leaves `crcPoly`, `d - 1` zero bits step it, the second bit adds `1` before the `d`-th step
  rw [List.append_assoc (zeros p), List.append_assoc (zeros p), crcBits_zero_pad, crcBits_append, crcBits_append,
    crcBits_zero_true, crcBits_zeros, crcBits_single_true, crcShift_xor, crcShift_one, crcShift_crcIter, ← crcIter,
    show (d - 1).succ = d by omega]
  exact crcIter_ne_zero _ fun h => crcIter_poly_ne d hd0 hd (BitVec.xor_eq_zero_iff.1 h)

/-- One flipped data bit can never have a single-bit linear remainder: for a bit followed by `q` further
bits and a CRC bit position `m`, as long as `q + 1 + m` stays below the period. -/
theorem crcIter_poly_ne_bit (q m : Nat) (hm : m < 32) (hq : q + 1 + m < 4294967295) :
    crcIter q crcPoly ≠ 1#32 <<< m := by
  intro h
  have h2 : crcIter (q + m) crcPoly = 1#32 := by rw [crcIter_add, h, crcIter_one_shl m hm]
  have h3 : crcIter (q + m + 1) crcPoly = crcPoly := by
    rw [crcIter_add, h2]; exact crcShift_one
  exact crcIter_poly_ne (q + m + 1) (by omega) (by omega) h3

/-- The bound on `n` (fewer than 2^29 - 4 bytes) keeps `q + 1 + m` of `crcIter_poly_ne_bit` below the period. -/
theorem crcLin_flipPattern_ne_bit {n i k m : Nat} (hi : i < n) (hk : k < 8) (hm : m < 32)
    (hn : 8 * n + 32 < 4294967295) : crcLin (flipPattern n i k) ≠ 1#32 <<< m := by
  rw [crcLin_flipPattern n i k hi hk]
  exact crcIter_poly_ne_bit _ m hm (by omega)

end FeVerif
