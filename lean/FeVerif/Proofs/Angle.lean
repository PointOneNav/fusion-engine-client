/-
Lemmas about `trunc`, `fmod` and `wrapAngle` of `Model/Angle.lean` over the rationals (core Lean: `Rat`'s own
floor/ceiling and order lemmas; `grind` is used for linear arithmetic and field identities only).

The range of the wrap is proved once, for the rounded formula under any `Rounding` (`wrapAngleR_range`); the exact
`wrapAngle_range` is its instance `Rounding.exact`.  The last part is what `C19_range_binary64` needs of binary64: the
representable values it names and the spacing of doubles just below 360 (`isDouble_lt_360`).
-/
import FeVerif.Spec.Angle

namespace FeVerif.Angle

theorem trunc_nonneg {q : Rat} (h : 0 ≤ q) : (trunc q : Rat) ≤ q ∧ q < (trunc q : Rat) + 1 := by
  have h2 := Rat.lt_floor_add_one q
  rw [Rat.intCast_add] at h2
  simp only [trunc, h, if_true]
  exact ⟨Rat.floor_le q, h2⟩

theorem trunc_neg {q : Rat} (h : q < 0) : q ≤ (trunc q : Rat) ∧ (trunc q : Rat) - 1 < q := by
  simp only [trunc, Rat.not_le.2 h, if_false]
  exact ⟨Rat.le_ceil, Rat.sub_lt_iff.2 Rat.ceil_lt⟩

theorem fmod_nonneg_range {x y : Rat} (hy : 0 < y) (hx : 0 ≤ x) : 0 ≤ fmod x y ∧ fmod x y < y := by
  have hq : 0 ≤ x / y := Rat.not_lt.1 fun h => by have := (Rat.div_lt_iff hy).1 h; grind
  obtain ⟨h1, h2⟩ := trunc_nonneg hq
  have h3 : ¬ x < (trunc (x / y) : Rat) * y := mt (Rat.div_lt_iff hy).2 (Rat.not_lt.2 h1)
  have h4 : x < ((trunc (x / y) : Rat) + 1) * y := (Rat.div_lt_iff hy).1 h2
  rw [fmod]
  constructor <;> grind

theorem fmod_neg_range {x y : Rat} (hy : 0 < y) (hx : x < 0) : -y < fmod x y ∧ fmod x y ≤ 0 := by
  have hq : x / y < 0 := (Rat.div_lt_iff hy).2 (by grind)
  obtain ⟨h1, h2⟩ := trunc_neg hq
  have h3 : ¬ (trunc (x / y) : Rat) * y < x := mt (Rat.lt_div_iff hy).2 (Rat.not_lt.2 h1)
  have h4 : ((trunc (x / y) : Rat) - 1) * y < x := (Rat.lt_div_iff hy).1 h2
  rw [fmod]
  constructor <;> grind

theorem fmod_abs_lt {x y : Rat} (hy : 0 < y) : -y < fmod x y ∧ fmod x y < y := by
  by_cases hx : 0 ≤ x
  · have := fmod_nonneg_range hy hx; grind
  · have := fmod_neg_range hy (Rat.not_le.1 hx); grind

theorem fmod_scale {c : Rat} (hc : c ≠ 0) (x y : Rat) : fmod (c * x) (c * y) = c * fmod x y := by
  have : c * x / (c * y) = x / y := by
    by_cases hy : y = 0
    · subst hy; simp [Rat.div_def]
    · grind
  rw [fmod, fmod, this]
  grind

/-- the sum `fmod a T + T` is non-negative and stays so under a monotone rounding that keeps `0` -/
theorem wrapAngleR_range (R : Rounding) (h0 : R.rep 0) {a T : Rat} (hT : 0 < T) :
    0 ≤ wrapAngleR R.rnd a T ∧ wrapAngleR R.rnd a T < T := by
  have h := (fmod_abs_lt (x := a) hT).1
  have h1 : R.rnd 0 ≤ R.rnd (fmod a T + T) := R.mono (by grind)
  rw [R.fix h0] at h1
  exact fmod_nonneg_range hT h1

theorem wrapAngleR_rep (R : Rounding) {T : Rat} (hT : R.rep T) (a : Rat) : R.rep (wrapAngleR R.rnd a T) :=
  R.rep_fmod (R.rep_rnd _) hT

theorem wrapAngle_range {a T : Rat} (hT : 0 < T) : 0 ≤ wrapAngle a T ∧ wrapAngle a T < T :=
  wrapAngleR_range Rounding.exact trivial hT

theorem wrapAngle_congr (a T : Rat) : ∃ k : Int, wrapAngle a T = a + T * (k : Rat) := by
  refine ⟨1 - trunc (a / T) - trunc ((fmod a T + T) / T), ?_⟩
  simp only [wrapAngle, fmod]
  push_cast
  grind

theorem wrapAngle_scale {c : Rat} (hc : c ≠ 0) (a T : Rat) : wrapAngle (c * a) (c * T) = c * wrapAngle a T := by
  simp only [wrapAngle]
  rw [fmod_scale hc a T, ← Rat.mul_add, fmod_scale hc]

theorem eq_of_congr_of_range {a b lo hi T : Rat} {k : Int} (ha : lo ≤ a ∧ a < hi) (hb : lo ≤ b ∧ b < hi)
    (hT : hi - lo ≤ T) (h : a = b + T * (k : Rat)) : a = b := by
  -- `T·k = a − b` lies strictly between `−T` and `T`, so the integer `k` is `0`
  have hT0 : 0 < T := by grind
  have h1 : T * (k : Rat) < T * (1 : Int) := by grind
  have h2 : T * ((-1 : Int) : Rat) < T * (k : Rat) := by grind
  have h3 := Rat.intCast_lt_intCast.1 (Rat.lt_of_mul_lt_mul_left h1 (Rat.le_of_lt hT0))
  have h4 := Rat.intCast_lt_intCast.1 (Rat.lt_of_mul_lt_mul_left h2 (Rat.le_of_lt hT0))
  rw [h, show k = 0 by omega, Rat.intCast_zero, Rat.mul_zero, Rat.add_zero]

theorem inverse_mod_of_congr {f g : Rat → Rat} {c T : Rat} (hf : ∀ x, ∃ k : Int, f x = c - x + T * (k : Rat))
    (hg : ∀ x, ∃ k : Int, g x = c - x + T * (k : Rat)) (x : Rat) : ∃ k : Int, g (f x) = x + T * (k : Rat) := by
  obtain ⟨k1, h1⟩ := hf x
  obtain ⟨k2, h2⟩ := hg (f x)
  exact ⟨k2 - k1, by rw [h2, h1]; push_cast; grind⟩

theorem periodic_of_congr_of_range {f : Rat → Rat} {c lo hi T : Rat}
    (hf : ∀ x, ∃ k : Int, f x = c - x + T * (k : Rat)) (hr : ∀ x, lo ≤ f x ∧ f x < hi) (hT : hi - lo ≤ T)
    (x : Rat) (n : Int) : f (x + T * (n : Rat)) = f x := by
  obtain ⟨k1, h1⟩ := hf (x + T * (n : Rat))
  obtain ⟨k2, h2⟩ := hf x
  exact eq_of_congr_of_range (k := k1 - n - k2) (hr _) (hr _) hT (by rw [h1, h2]; push_cast; grind)

theorem isDouble_int (n : Int) (h : n.natAbs < 2 ^ 53) : IsDouble n :=
  ⟨n, 0, h, .inr ⟨Nat.zero_le _, by simp⟩⟩

/-- the double just below 180 -/
theorem isDouble_pred_180 : IsDouble (180 - 1 / 2 ^ 45) :=
  ⟨180 * 2 ^ 45 - 1, 45, by decide, .inl ⟨by decide, by decide +kernel⟩⟩

/-- Doubles in `[256, 512)` are spaced `2^-44` apart: a double below 360 is at most `360 - 2^-44`. -/
theorem isDouble_lt_360 {w : Rat} (hw : IsDouble w) (h : w < 360) : w ≤ 360 - 1 / 2 ^ 44 := by
  by_cases hge : 256 ≤ w
  case neg => grind
  obtain ⟨m, k, hm, ⟨hk, rfl⟩ | ⟨hk, rfl⟩⟩ := hw
  · generalize hPk : 2 ^ k = P at h hge ⊢
    have hP : (0 : Rat) < (P : Rat) := Rat.natCast_pos.2 (hPk ▸ Nat.pow_pos (by decide))
    have h1 := Rat.mul_le_mul_of_nonneg_right hge (Rat.le_of_lt hP)
    have h2 := Rat.mul_lt_mul_of_pos_right h hP
    rw [Rat.div_mul_cancel (Rat.ne_of_gt hP)] at h1 h2
    have h1' : ((256 * P : Int) : Rat) ≤ m := by push_cast; exact h1
    have h2' : (m : Rat) < ((360 * P : Int) : Rat) := by push_cast; exact h2
    rw [Rat.intCast_le_intCast] at h1'
    rw [Rat.intCast_lt_intCast] at h2'
    -- `256·2^k ≤ m < 2^53` forces `k ≤ 44`; with `m ≤ 360·2^k − 1` that is `w ≤ 360 − 2^-k ≤ 360 − 2^-44`
    have hk44 : k ≤ 44 := Nat.le_of_lt_succ
      ((Nat.pow_lt_pow_iff_right (a := 2) (by decide)).1 (hPk ▸ (by omega : P < 2 ^ 45)))
    have hP44 : ((P : Int) : Rat) ≤ ((2 ^ 44 : Int) : Rat) :=
      Rat.intCast_le_intCast.2 (by have := Nat.pow_le_pow_right (by decide : 0 < 2) hk44; omega)
    have h3 : (m : Rat) ≤ ((360 * P - 1 : Int) : Rat) := Rat.intCast_le_intCast.2 (by omega)
    push_cast at h3 hP44
    refine Rat.le_of_mul_le_mul_right ?_ hP
    rw [Rat.div_mul_cancel (Rat.ne_of_gt hP)]
    grind
  · generalize 2 ^ k = P at h ⊢
    have h3 : ((m * P : Int) : Rat) < ((360 : Int) : Rat) := by push_cast; exact h
    rw [Rat.intCast_lt_intCast] at h3
    have h4 : ((m * P : Int) : Rat) ≤ ((359 : Int) : Rat) := Rat.intCast_le_intCast.2 (by omega)
    push_cast at h4
    grind
end FeVerif.Angle
