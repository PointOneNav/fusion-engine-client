/-
The zero-feed step of the CRC-32 register has minimal period 2^32 - 1 at the polynomial's own bit pattern
(the reflected polynomial is primitive).  The register holds a residue modulo the polynomial, bit `i` standing
for `x^(31-i)`, and the step multiplies by `x`; so `crcIter e` is multiplication by `x^e`, which the kernel
evaluates for `e = 2^32 - 1` and `e = (2^32 - 1)/q` with 32 squarings each.  The divisor argument uses Mathlib's
`Function.minimalPeriod`.
-/
import FeVerif.Proofs.Crc
import Mathlib.Dynamics.PeriodicPts.Defs
import Mathlib.Tactic.NormNum.Prime
namespace FeVerif

/-- `Σ_{i<n} vᵢ · T^(n-1-i) c` for the zero-feed step `T`.  With `n = 32` this is the product of the residues `v`
and `c`: the polynomial with the coefficients of `v`, evaluated at `T`, applied to `c`. -/
def mulP : Nat → W32 → W32 → W32
  | 0, _, _ => 0#32
  | n + 1, v, c => (if v.getLsbD n then c else 0#32) ^^^ mulP n v (crcShift c)

theorem mulP_crcShift (n : Nat) (v c : W32) : mulP n v (crcShift c) = crcShift (mulP n v c) := by
  induction n generalizing c with
  | zero => exact crcShift_zero.symm
  | succ n ih => rw [mulP, mulP, ih, crcShift_xor]; split <;> simp [crcShift_zero]

theorem mulP_crcIter (k n : Nat) (v c : W32) : mulP n v (crcIter k c) = crcIter k (mulP n v c) := by
  induction k generalizing c with
  | zero => rfl
  | succ k ih => rw [crcIter, ih, mulP_crcShift, crcIter]

theorem crcShift_one_shl (n : Nat) (h : n < 31) : crcShift (1#32 <<< (n + 1)) = 1#32 <<< n := by
  rw [BitVec.shiftLeft_add, crcShift_shl]
  rw [← BitVec.twoPow_eq, BitVec.getLsbD_twoPow]; simp; omega

theorem crcIter_one_shl (m : Nat) (hm : m < 32) : crcIter m (1#32 <<< m) = 1#32 := by
  induction m with
  | zero => rfl
  | succ m ih => rw [crcIter, crcShift_one_shl m (by omega), ih (by omega)]

/-- Applied to `x^(31-n)` the low `n + 1` coefficients meet no reduction: the steps only shift, and every bit
lands where it came from. -/
theorem mulP_one_shl (v : W32) (n j : Nat) (hn : n < 32) :
    (mulP (n + 1) v (1#32 <<< n)).getLsbD j = (decide (j ≤ n) && v.getLsbD j) := by
  have bit (k : Nat) (hk : k < 32) :
      (if v.getLsbD k then 1#32 <<< k else 0#32).getLsbD j = (decide (j = k) && v.getLsbD j) := by
    by_cases hj : j = k
    · subst hj; cases hv : v.getLsbD j
      · simp
      · rw [if_pos rfl, ← BitVec.twoPow_eq, BitVec.getLsbD_twoPow]; simp [hk]
    · split
      · rw [← BitVec.twoPow_eq, BitVec.getLsbD_twoPow]; simp [hj, Ne.symm hj]
      · simp [hj]
  induction n with
  | zero => rw [mulP, mulP, BitVec.xor_zero, bit 0 hn]; simp
  | succ n ih =>
    rw [mulP, crcShift_one_shl n (by omega), BitVec.getLsbD_xor, ih (by omega), bit _ hn]
    by_cases h1 : j = n + 1
    · simp [h1]
    · simp [h1, show j ≤ n + 1 ↔ j ≤ n by omega]

/-- The residue `x⁰`. -/
def crcOne : W32 := 0x80000000#32

theorem mulP_crcOne (v : W32) : mulP 32 v crcOne = v := by
  apply BitVec.eq_of_getLsbD_eq; intro j hj
  rw [show crcOne = 1#32 <<< 31 by decide, mulP_one_shl v 31 j (by omega)]
  simp; omega

/-- `k` steps multiply by the residue of `x^k`. -/
theorem crcIter_eq_mulP (k : Nat) (v : W32) : crcIter k v = mulP 32 v (crcIter k crcOne) := by
  rw [mulP_crcIter, mulP_crcOne]

/-- Horner's rule on the exponent `e`: `a` is `x^(e >>> f)`, the low `f` bits of `e` are still to come. -/
def powX : Nat → Nat → W32 → W32
  | 0, _, a => a
  | f + 1, e, a => powX f e (if (e >>> f) % 2 = 1 then crcShift (mulP 32 a a) else mulP 32 a a)

theorem powX_eq (f e : Nat) : powX f e (crcIter (e >>> f) crcOne) = crcIter e crcOne := by
  induction f with
  | zero => rfl
  | succ f ih =>
    -- the squaring: `mulP 32 a a` with `a = x^k` is `crcIter k a` (`crcIter_eq_mulP` from right to left at `v := a`)
    rw [powX, ← crcIter_eq_mulP, ← crcIter_add, ← ih]
    have h : e >>> (f + 1) = e >>> f / 2 := Nat.shiftRight_succ ..
    split
    · rw [crcShift_crcIter, ← crcIter]; congr 2; omega
    · congr 2; omega

theorem crcIter_poly_eq (e : Nat) (he : e < 4294967296) :
    crcIter e crcPoly = mulP 32 crcPoly (powX 32 e crcOne) := by
  rw [crcIter_eq_mulP, ← powX_eq 32 e, Nat.shiftRight_eq_div_pow, Nat.div_eq_of_lt he]; rfl

/-- `x^(2^32-1) = 1`, and `x^((2^32-1)/q) ≠ 1` for the prime factors `q` of `2^32 - 1` (each multiplied by `x^32`, the
polynomial's bit pattern). -/
theorem crcPoly_period_certificate : mulP 32 crcPoly (powX 32 4294967295 crcOne) = crcPoly ∧
    ∀ q ∈ [3, 5, 17, 257, 65537], mulP 32 crcPoly (powX 32 (4294967295 / q) crcOne) ≠ crcPoly := by
  decide +kernel

theorem crcIter_eq_iterate (k : Nat) (v : W32) : crcIter k v = crcShift^[k] v := by
  induction k generalizing v with
  | zero => rfl
  | succ k ih => rw [crcIter, ih, Function.iterate_succ_apply]

open Function

theorem isPeriodicPt_crcShift {k : ℕ} {v : W32} : IsPeriodicPt crcShift k v ↔ crcIter k v = v := by
  rw [crcIter_eq_iterate]; rfl

theorem minimalPeriod_eq_of_prime_quotients {α : Type*} {f : α → α} {x : α} {N : ℕ}
    (hN : IsPeriodicPt f N x) (hq : ∀ q, q.Prime → q ∣ N → ¬ IsPeriodicPt f (N / q) x) :
    minimalPeriod f x = N := by
  -- if `N` is the minimal period times `r ≠ 1`, take a prime `q ∣ r`: `N / q` is still a multiple of the minimal period
  obtain ⟨r, hr⟩ := hN.minimalPeriod_dvd
  by_contra hne
  obtain ⟨q, hqp, s, rfl⟩ :=
    Nat.exists_prime_and_dvd (n := r) (by rintro rfl; exact hne (by rw [hr, Nat.mul_one]))
  refine hq q hqp ⟨minimalPeriod f x * s, by rw [hr]; ac_rfl⟩ ?_
  rw [hr, show minimalPeriod f x * (q * s) = minimalPeriod f x * s * q by ac_rfl, Nat.mul_div_cancel _ hqp.pos]
  exact (isPeriodicPt_minimalPeriod f x).mul_const s

theorem prime_dvd_two_pow_32_sub_one {q : ℕ} (hq : q.Prime) (h : q ∣ 4294967295) :
    q ∈ [3, 5, 17, 257, 65537] := by
  rw [show (4294967295 : ℕ) = 3 * (5 * (17 * (257 * 65537))) by norm_num] at h
  simp only [hq.dvd_mul, Nat.prime_dvd_prime_iff_eq hq (by norm_num : Nat.Prime 3),
    Nat.prime_dvd_prime_iff_eq hq (by norm_num : Nat.Prime 5),
    Nat.prime_dvd_prime_iff_eq hq (by norm_num : Nat.Prime 17),
    Nat.prime_dvd_prime_iff_eq hq (by norm_num : Nat.Prime 257),
    Nat.prime_dvd_prime_iff_eq hq (by norm_num : Nat.Prime 65537)] at h
  simpa using h

theorem minimalPeriod_crcPoly : minimalPeriod crcShift crcPoly = 4294967295 := by
  have key (e : ℕ) (he : e < 4294967296) :
      IsPeriodicPt crcShift e crcPoly ↔ mulP 32 crcPoly (powX 32 e crcOne) = crcPoly := by
    rw [isPeriodicPt_crcShift, crcIter_poly_eq e he]
  refine minimalPeriod_eq_of_prime_quotients ((key _ (by decide)).2 crcPoly_period_certificate.1) ?_
  intro q hq hdvd
  rw [key _ (Nat.lt_succ_of_le (Nat.div_le_self ..))]
  exact crcPoly_period_certificate.2 q (prime_dvd_two_pow_32_sub_one hq hdvd)

theorem crcIter_poly_ne (d : Nat) (h0 : 0 < d) (h1 : d < 4294967295) : crcIter d crcPoly ≠ crcPoly := by
  intro h
  have := (isPeriodicPt_crcShift.2 h).minimalPeriod_dvd
  rw [minimalPeriod_crcPoly] at this
  omega

end FeVerif
