/-
The re-feed machine of the C07 development, as a pure function on the pending bytes.

`stepT cap w` is the verdict of the C++ state machine on a window `w` that starts at a candidate: unlike the
specification scan it does not wait for 24 bytes before dropping a byte that cannot start a message
(`SYNC0` / `SYNC1` states).  `settle cap w` re-feeds: a rejected window is re-examined from its second byte.
`settle_msgs` : it accepts exactly the messages of `(cfgCxx cap).run`.
-/
import FeVerif.Model.CxxFramer
import FeVerif.Proofs.Frame
import FeVerif.Proofs.Header

namespace FeVerif

open Cxx

open Cfg

def stepT (cap : Nat) (w : Bytes) : Step :=
  if w.length = 0 then .stop
  else if byteAt w 0 ≠ SYNC0 then .drop
  else if w.length = 1 then .stop
  else if byteAt w 1 ≠ SYNC1 then .drop
  else (cfgCxx cap).step w

theorem cxxHeaderOk_take (cap : Nat) (buf : Bytes) :
    cxxHeaderOk cap (buf.take HDR) =
      (decide (byteAt buf 0 = SYNC0) && decide (byteAt buf 1 = SYNC1) &&
        decide (HDR + u32le buf 16 < U32) && decide (u16le buf 2 = 0) && decide (HDR + u32le buf 16 ≤ cap)) := by
  unfold cxxHeaderOk HDR
  rw [byteAt_take (by omega), byteAt_take (by omega), u16le_take (by omega), u32le_take (by omega)]

theorem cxxHeaderOk_iff (cap : Nat) (w : Bytes) :
    cxxHeaderOk cap (w.take HDR) = true ↔ byteAt w 0 = SYNC0 ∧ byteAt w 1 = SYNC1 ∧
      HDR + u32le w 16 < U32 ∧ u16le w 2 = 0 ∧ HDR + u32le w 16 ≤ cap := by
  rw [cxxHeaderOk_take]; simp [and_assoc]

theorem cxxCrcOk_take (buf : Bytes) : cxxCrcOk (buf.take (HDR + u32le buf 16)) = cxxCrcOk buf := by
  unfold cxxCrcOk HDR
  rw [u32le_take (by omega), u32le_take (by omega), List.take_take, Nat.min_self]

theorem cfgCxx_msgLen (cap : Nat) (buf : Bytes) : (cfgCxx cap).msgLen buf = HDR + u32le buf 16 :=
  msgLen_fe rfl rfl buf

theorem cfgCxx_step (cap : Nat) (buf : Bytes) :
    (cfgCxx cap).step buf =
      if buf.length < HDR then .stop
      else if cxxHeaderOk cap (buf.take HDR) = false then .drop
      else if buf.length < HDR + u32le buf 16 then .stop
      else if cxxCrcOk buf = true then .emit (HDR + u32le buf 16) else .drop := by
  rw [Cfg.step, cfgCxx_msgLen]
  simp only [cfgCxx, cxxCrcOk_take]

theorem stepT_nil (cap : Nat) : stepT cap [] = .stop := rfl

theorem stepT_singleton (cap : Nat) (b : Byte) : stepT cap [b] = if b.toNat = SYNC0 then .stop else .drop := by
  unfold stepT byteAt; by_cases h : b.toNat = SYNC0 <;> simp [h]

theorem stepT_drop_of_byte {cap : Nat} {w : Bytes} (hl : 0 < w.length) (hb : byteAt w 0 ≠ SYNC0) :
    stepT cap w = .drop := by
  unfold stepT; rw [if_neg (by omega), if_pos hb]

theorem stepT_of_sync0 {cap : Nat} {w : Bytes} (h2 : 2 ≤ w.length) (h0 : byteAt w 0 = SYNC0) :
    stepT cap w = if byteAt w 1 = SYNC1 then (cfgCxx cap).step w else .drop := by
  unfold stepT
  rw [if_neg (by omega), if_neg (by simpa using h0), if_neg (by omega)]
  by_cases h1 : byteAt w 1 = SYNC1
  · rw [if_neg (by simpa using h1), if_pos h1]
  · rw [if_pos h1, if_neg h1]

theorem stepT_of_long {cap : Nat} {w : Bytes} (h : HDR ≤ w.length) : stepT cap w = (cfgCxx cap).step w := by
  by_cases h0 : byteAt w 0 = SYNC0
  · rw [stepT_of_sync0 (Nat.le_trans (by decide) h) h0]
    split
    · rfl
    next h1 =>
      rw [cfgCxx_step, if_neg (Nat.not_lt.2 h), if_pos (by rw [cxxHeaderOk_take]; simp [h1])]
  · rw [stepT_drop_of_byte (Nat.lt_of_lt_of_le (by decide) h) h0, cfgCxx_step, if_neg (Nat.not_lt.2 h),
      if_pos (by rw [cxxHeaderOk_take]; simp [h0])]

theorem stepT_of_header {cap : Nat} {w : Bytes} (hl : HDR ≤ w.length) :
    stepT cap w =
      if cxxHeaderOk cap (w.take HDR) = true then
        if w.length < HDR + u32le w 16 then .stop
        else if cxxCrcOk w = true then .emit (HDR + u32le w 16) else .drop
      else .drop := by
  rw [stepT_of_long hl, cfgCxx_step, if_neg (by omega)]
  cases cxxHeaderOk cap (w.take HDR) <;> simp

theorem stepT_emit {cap : Nat} {w : Bytes} {n : Nat} (h : stepT cap w = .emit n) :
    (cfgCxx cap).step w = .emit n := by
  unfold stepT at h
  exact (of_ite_eq (of_ite_eq (of_ite_eq (of_ite_eq h nofun).2 nofun).2 nofun).2 nofun).2

theorem stepT_emit_pos {cap : Nat} {w : Bytes} {n : Nat} (h : stepT cap w = .emit n) :
    0 < n ∧ n ≤ w.length :=
  step_emit_pos (stepT_emit h)

theorem stepT_drop_pos {cap : Nat} {w : Bytes} (h : stepT cap w = .drop) : 0 < w.length :=
  Nat.pos_of_ne_zero fun h0 => by rw [stepT, if_pos h0] at h; cases h

theorem stepT_stop_sync0 {cap : Nat} {p : Bytes} (h : stepT cap p = .stop) (h1 : 1 ≤ p.length) : byteAt p 0 = SYNC0 :=
  Decidable.by_contra fun h0 => by rw [stepT_drop_of_byte h1 h0] at h; cases h

theorem stepT_stop_sync1 {cap : Nat} {p : Bytes} (h : stepT cap p = .stop) (h2 : 2 ≤ p.length) : byteAt p 1 = SYNC1 :=
  Decidable.by_contra fun h1 => by
    rw [stepT_of_sync0 h2 (stepT_stop_sync0 h (Nat.le_of_succ_le h2)), if_neg h1] at h; cases h

theorem stepT_stop_long {cap : Nat} {p : Bytes} (h : stepT cap p = .stop) (h24 : HDR ≤ p.length) :
    cxxHeaderOk cap (p.take HDR) = true ∧ p.length < HDR + u32le p 16 := by
  rw [stepT_of_long h24] at h
  rcases step_stop_iff.1 h with h' | ⟨h1, h2⟩
  · exact absurd h' (by show ¬ p.length < HDR; omega)
  · rw [cfgCxx_msgLen] at h2; exact ⟨h1, h2⟩

theorem stepT_stop_lt_cap {cap : Nat} {p : Bytes} (h : stepT cap p = .stop) (hc : HDR ≤ cap) : p.length < cap := by
  by_cases h24 : HDR ≤ p.length
  · have := stepT_stop_long h h24
    have := ((cxxHeaderOk_iff cap p).1 this.1).2.2.2.2
    omega
  · omega

/-- The re-feed machine: accepted messages (their bytes) and the pending window. -/
def settle (cap : Nat) (w : Bytes) : List Bytes × Bytes :=
  match h : stepT cap w with
  | .stop => ([], w)
  | .drop => settle cap (w.drop 1)
  | .emit n => (w.take n :: (settle cap (w.drop n)).1, (settle cap (w.drop n)).2)
termination_by w.length
decreasing_by
  all_goals simp only [List.length_drop]
  all_goals first
    | (have := stepT_drop_pos h; omega)
    | (have := stepT_emit_pos h; omega)

theorem settle_stop {cap : Nat} {w : Bytes} (h : stepT cap w = .stop) : settle cap w = ([], w) := by
  rw [settle.eq_def]; split <;> simp_all

theorem settle_drop {cap : Nat} {w : Bytes} (h : stepT cap w = .drop) :
    settle cap w = settle cap (w.drop 1) := by
  rw [settle.eq_def]; split <;> simp_all

theorem settle_emit {cap : Nat} {w : Bytes} {n : Nat} (h : stepT cap w = .emit n) :
    settle cap w = (w.take n :: (settle cap (w.drop n)).1, (settle cap (w.drop n)).2) := by
  rw [settle.eq_def]; split <;> simp_all

theorem settle_nil (cap : Nat) : settle cap [] = ([], []) := settle_stop (stepT_nil cap)

theorem settle_singleton (cap : Nat) (b : Byte) :
    settle cap [b] = ([], if b.toNat = SYNC0 then [b] else []) := by
  have hv := stepT_singleton cap b
  by_cases h : b.toNat = SYNC0
  · rw [if_pos h] at hv ⊢; exact settle_stop hv
  · rw [if_neg h] at hv ⊢; rw [settle_drop hv]; exact settle_nil cap

theorem stepT_append_of_ne_stop {cap : Nat} {w : Bytes} (more : Bytes) (h : stepT cap w ≠ .stop) :
    stepT cap (w ++ more) = stepT cap w := by
  have hl : 0 < w.length := Nat.pos_of_ne_zero fun hl => h (by rw [stepT, if_pos hl])
  have hl' : 0 < (w ++ more).length := by rw [List.length_append]; omega
  by_cases h0 : byteAt w 0 = SYNC0
  · have h2 : 2 ≤ w.length := Nat.lt_of_le_of_ne hl fun h1 =>
      h (by rw [stepT, if_neg (by omega), if_neg (by simpa using h0), if_pos h1.symm])
    rw [stepT_of_sync0 h2 h0] at h ⊢
    rw [stepT_of_sync0 (by rw [List.length_append]; omega) (by rwa [byteAt_append hl]), byteAt_append (by omega)]
    split
    next h1 => exact step_append_of_ne_stop more (by rwa [if_pos h1] at h)
    · rfl
  · rw [stepT_drop_of_byte hl h0, stepT_drop_of_byte hl' (by rwa [byteAt_append hl])]

theorem settle_pending (cap : Nat) (w : Bytes) : stepT cap (settle cap w).2 = .stop := by
  fun_induction settle cap w with
  | case1 w h => exact h
  | case2 w h ih => exact ih
  | case3 w n h ih => exact ih

theorem settle_append (cap : Nat) (w more : Bytes) :
    settle cap (w ++ more) =
      ((settle cap w).1 ++ (settle cap ((settle cap w).2 ++ more)).1,
        (settle cap ((settle cap w).2 ++ more)).2) := by
  fun_induction settle cap w with
  | case1 => rfl
  | case2 w h ih =>
    rw [settle_drop (by rw [stepT_append_of_ne_stop more (by simp [h]), h]),
      List.drop_append_of_le_length (stepT_drop_pos h), ih]
  | case3 w n h ih =>
    have hn := (stepT_emit_pos h).2
    rw [settle_emit (by rw [stepT_append_of_ne_stop more (by simp [h]), h]),
      List.drop_append_of_le_length hn, List.take_append_of_le_length hn, ih]
    rfl

theorem settle_short {cap : Nat} {w : Bytes} (h : w.length < HDR) : (settle cap w).1 = [] := by
  fun_induction settle cap w with
  | case1 => rfl
  | case2 w hs ih => exact ih (by rw [List.length_drop]; omega)
  | case3 w n hs ih =>
    exact absurd (hdrLen_le_of_ne_stop (c := cfgCxx cap) (by simp [stepT_emit hs])) (Nat.not_le.2 h)

def msgBytes (buf : Bytes) (off : Nat) (l : List (Nat × Nat)) : List Bytes :=
  l.map fun p => (buf.drop (p.1 - off)).take p.2

/-- The two vocabularies for the messages of a scan as bytes: `msgBytes` over offsets (C07) and `Cfg.scan` (C14). -/
theorem msgBytes_run (c : Cfg) (w : Bytes) : msgBytes w 0 (c.run w 0).msgs = (c.scan w).1 := rfl

/-- **The re-feed machine is the specification**: it accepts exactly the messages of the scan. -/
theorem settle_msgs (cap : Nat) (w : Bytes) : (settle cap w).1 = msgBytes w 0 ((cfgCxx cap).run w 0).msgs := by
  rw [msgBytes_run]
  induction w using step_induction (c := cfgCxx cap) with
  | stop w h =>
    rw [scan_stop h]
    by_cases hl : HDR ≤ w.length
    · rw [settle_stop (by rw [stepT_of_long hl, h])]
    · rw [settle_short (by omega)]
  | drop w h ih =>
    rw [settle_drop (by rw [stepT_of_long (hdrLen_le_of_ne_stop (c := cfgCxx cap) (by simp [h])), h]), ih, scan_drop h]
  | emit w n h ih =>
    rw [settle_emit (by rw [stepT_of_long (hdrLen_le_of_ne_stop (c := cfgCxx cap) (by simp [h])), h]), ih, scan_emit h]

end FeVerif
