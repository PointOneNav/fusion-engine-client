/-
Lemmas tying the validators (Python `validate_crc`, C++ `IsValid` / framer comparison) to the CRC
comparison `CrcMatches`, and showing that altered messages fail it.
-/
import FeVerif.Spec.Integrity
import FeVerif.Model.Encoder
import FeVerif.Proofs.Crc
import FeVerif.Proofs.Bytes

namespace FeVerif

/-! The validators look at the announced extent only: `msg.take (HDR + u32le msg 16)`, provided the buffer holds it.
On an exactly framed message that is the message. -/

theorem crcMatches_extent (msg : Bytes) : CrcMatches (msg.take (HDR + u32le msg 16)) ↔
    (crc32 0#32 ((msg.take (HDR + u32le msg 16)).drop 8)).toNat = u32le msg 4 := by
  unfold CrcMatches; rw [u32le_take (by unfold HDR; omega)]

section extent
variable {msg : Bytes} (h : HDR + u32le msg 16 ≤ msg.length)
include h

theorem pyUnpackValidate_extent : pyUnpackValidate msg =
    some (decide (u32le msg 16 ≤ MAX_EXPECTED) && decide (CrcMatches (msg.take (HDR + u32le msg 16)))) := by
  unfold pyUnpackValidate
  rw [if_neg (by unfold HDR at h ⊢; omega)]
  by_cases hm : u32le msg 16 > MAX_EXPECTED
  · rw [if_pos hm]; simp; omega
  · rw [if_neg hm, if_neg (by omega)]; simp [crcMatches_extent]; omega

theorem cxxCalculateCRC_extent :
    cxxCalculateCRC msg = some (crc32 0#32 ((msg.take (HDR + u32le msg 16)).drop 8)) := by
  unfold cxxCalculateCRC
  unfold HDR at h ⊢
  rw [if_neg (by omega), if_neg (by omega), List.drop_take, show 24 + u32le msg 16 - 8 = 16 + u32le msg 16 by omega]

theorem cxxIsValid_extent : cxxIsValid msg =
    some (decide (HDR + u32le msg 16 ≤ MAX_EXPECTED) && decide (CrcMatches (msg.take (HDR + u32le msg 16)))) := by
  unfold cxxIsValid
  rw [cxxCalculateCRC_extent h, if_neg (by unfold HDR at h ⊢; omega)]
  by_cases hm : HDR + u32le msg 16 > MAX_EXPECTED
  · rw [if_pos hm]; simp; omega
  · rw [if_neg hm]; simp [crcMatches_extent]; omega

end extent

theorem ExactMsg.le {msg : Bytes} (h : ExactMsg msg) : HDR + u32le msg 16 ≤ msg.length :=
  Nat.le_of_eq (Eq.symm h)

theorem ExactMsg.take_eq {msg : Bytes} (h : ExactMsg msg) : msg.take (HDR + u32le msg 16) = msg :=
  List.take_of_length_le (Nat.le_of_eq h)

theorem ExactMsg.eight_le {msg : Bytes} (h : ExactMsg msg) : 8 ≤ msg.length := by
  unfold ExactMsg HDR at h; omega

section exact
variable {msg : Bytes} (h : ExactMsg msg)
include h

theorem pyCrcOk_exact : pyCrcOk msg = (decide (u32le msg 16 ≤ MAX_EXPECTED) && decide (CrcMatches msg)) := by
  unfold pyCrcOk CrcMatches; rw [h.take_eq]

theorem pyUnpackValidate_exact :
    pyUnpackValidate msg = some (decide (u32le msg 16 ≤ MAX_EXPECTED) && decide (CrcMatches msg)) := by
  rw [pyUnpackValidate_extent h.le, h.take_eq]

theorem cxxCalculateCRC_exact : cxxCalculateCRC msg = some (crc32 0#32 (msg.drop 8)) := by
  rw [cxxCalculateCRC_extent h.le, h.take_eq]

theorem cxxIsValid_exact :
    cxxIsValid msg = some (decide (HDR + u32le msg 16 ≤ MAX_EXPECTED) && decide (CrcMatches msg)) := by
  rw [cxxIsValid_extent h.le, h.take_eq]

theorem cxxFramerCrcOk_exact : cxxFramerCrcOk msg = decide (CrcMatches msg) := by
  unfold cxxFramerCrcOk CrcMatches
  rw [cxxCalculateCRC_exact h]

theorem rejected_of_not_matches (hn : ¬ CrcMatches msg) :
    pyUnpackValidate msg = some false ∧ pyCrcOk msg = false ∧ cxxIsValid msg = some false ∧
    cxxFramerCrcOk msg = false := by
  rw [pyUnpackValidate_exact h, pyCrcOk_exact h, cxxIsValid_exact h, cxxFramerCrcOk_exact h]
  simp [hn]

end exact

theorem accepted_of_extent {msg : Bytes} (h : HDR + u32le msg 16 ≤ msg.length)
    (hmax : HDR + u32le msg 16 ≤ MAX_EXPECTED) (hcm : CrcMatches (msg.take (HDR + u32le msg 16))) :
    pyUnpackValidate msg = some true ∧ cxxIsValid msg = some true ∧
    cxxFramerCrcOk (msg.take (HDR + u32le msg 16)) = true := by
  have hex : ExactMsg (msg.take (HDR + u32le msg 16)) := by
    unfold ExactMsg; rw [List.length_take, Nat.min_eq_left h, u32le_take (by unfold HDR; omega)]
  rw [pyUnpackValidate_extent h, cxxIsValid_extent h, cxxFramerCrcOk_exact hex]
  simp [hcm, hmax]; omega

/-- For concrete messages: the kernel evaluates the bit-serial specification far more cheaply than the table
algorithm (building `crcTable` alone costs more than the bit-serial CRC of a whole message). -/
theorem crcMatches_iff_bitwise (msg : Bytes) :
    CrcMatches msg ↔ (crcBitwise (msg.drop 8)).toNat = u32le msg 4 := by
  unfold CrcMatches crcBitwise; rw [crc32_eq_spec]; rfl

section corrupt
variable {msg e : Bytes}

theorem corruptProtected_length (he : e.length = msg.length - 8) :
    (corruptProtected msg e).length = msg.length := by
  unfold corruptProtected
  rw [List.length_append, xorBytes_length (by simp; omega)]; simp; omega

theorem corruptProtected_drop8 (h8 : 8 ≤ msg.length) :
    (corruptProtected msg e).drop 8 = xorBytes (msg.drop 8) e := by
  unfold corruptProtected
  rw [List.drop_append_of_le_length (by simp; omega), List.drop_of_length_le (by simp; omega), List.nil_append]

theorem corruptProtected_crcField (h8 : 8 ≤ msg.length) :
    u32le (corruptProtected msg e) 4 = u32le msg 4 := by
  unfold corruptProtected
  rw [u32le_append (by simp; omega), u32le_take (by omega)]

theorem exactMsg_corruptProtected (hex : ExactMsg msg) (he : e.length = msg.length - 8)
    (hsz : u32le (corruptProtected msg e) 16 = u32le msg 16) : ExactMsg (corruptProtected msg e) := by
  unfold ExactMsg; rw [corruptProtected_length he, hsz]; exact hex

theorem crc32_corruptProtected (h8 : 8 ≤ msg.length) (he : e.length = msg.length - 8) :
    crc32 0#32 ((corruptProtected msg e).drop 8) = crc32 0#32 (msg.drop 8) ^^^ crcLin e := by
  rw [corruptProtected_drop8 h8, crc32_xor _ _ _ (by rw [List.length_drop, he])]

theorem corruptProtected_not_matches (hex : ExactMsg msg) (he : e.length = msg.length - 8)
    (hm : CrcMatches msg) (hl : crcLin e ≠ 0#32) : ¬ CrcMatches (corruptProtected msg e) := by
  have h8 := hex.eight_le
  unfold CrcMatches at hm ⊢
  rw [crc32_corruptProtected h8 he, corruptProtected_crcField h8, ← hm]
  exact fun h => hl (xor_eq_left.1 (BitVec.eq_of_toNat_eq h))

end corrupt

section replace
variable {x f : Bytes}

theorem replaceCrcField_length (h8 : 8 ≤ x.length) (hf : f.length = 4) :
    (replaceCrcField x f).length = x.length := by
  simp [replaceCrcField, hf]; omega

theorem replaceCrcField_drop8 (h8 : 8 ≤ x.length) (hf : f.length = 4) :
    (replaceCrcField x f).drop 8 = x.drop 8 := by
  unfold replaceCrcField
  rw [List.drop_append_of_le_length (by simp; omega), List.drop_of_length_le (by simp; omega), List.nil_append]

theorem replaceCrcField_crcField (h8 : 8 ≤ x.length) (hf : f.length = 4) :
    u32le (replaceCrcField x f) 4 = u32le f 0 := by
  unfold replaceCrcField
  rw [List.append_assoc, u32le_shift (n := 4) (by simp; omega) 0, u32le_append (by omega)]

theorem replaceCrcField_size (h8 : 8 ≤ x.length) (hf : f.length = 4) :
    u32le (replaceCrcField x f) 16 = u32le x 16 := by
  unfold replaceCrcField
  rw [u32le_shift (n := 8) (by simp [hf]; omega) 8, u32le_drop]

theorem exactMsg_replaceCrcField (hex : ExactMsg x) (hf : f.length = 4) : ExactMsg (replaceCrcField x f) := by
  unfold ExactMsg
  rw [replaceCrcField_length hex.eight_le hf, replaceCrcField_size hex.eight_le hf]; exact hex

theorem crcMatches_replaceCrcField (h8 : 8 ≤ x.length) (hf : f.length = 4) :
    CrcMatches (replaceCrcField x f) ↔ (crc32 0#32 (x.drop 8)).toNat = u32le f 0 := by
  unfold CrcMatches; rw [replaceCrcField_drop8 h8 hf, replaceCrcField_crcField h8 hf]

theorem replaceCrcField_not_matches (hex : ExactMsg x) (hf : f.length = 4)
    (hne : f ≠ (x.drop 4).take 4) (hm : CrcMatches x) : ¬ CrcMatches (replaceCrcField x f) := by
  have h8 := hex.eight_le
  unfold CrcMatches at hm
  rw [crcMatches_replaceCrcField h8 hf, hm, ← u32le_drop x 4 0, ← u32le_take (k := 4) (by omega)]
  exact fun h => hne (u32le_four_inj hf (by simp; omega) h.symm)

end replace

/-- Pattern `e` on the protected region and four bytes `f` in the CRC field: the result can pass the CRC
comparison only if the stored CRC has moved by the linear remainder of `e`. -/
theorem crcLin_of_altered_matches {msg e f : Bytes} (hex : ExactMsg msg) (he : e.length = msg.length - 8)
    (hf : f.length = 4) (hm : CrcMatches msg) (h : CrcMatches (replaceCrcField (corruptProtected msg e) f)) :
    BitVec.ofNat 32 (u32le f 0) = BitVec.ofNat 32 (u32le msg 4) ^^^ crcLin e := by
  have h8 := hex.eight_le
  unfold CrcMatches at hm
  rw [crcMatches_replaceCrcField (by rw [corruptProtected_length he]; exact h8) hf,
    crc32_corruptProtected h8 he] at h
  rw [← h, ← hm, BitVec.ofNat_toNat, BitVec.setWidth_eq, BitVec.ofNat_toNat, BitVec.setWidth_eq]

end FeVerif
