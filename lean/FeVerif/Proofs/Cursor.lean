/-
The reader's `next_index_elem` bookkeeping refines the abstract cursor (filtered list + position).
-/
import FeVerif.Spec.Reader

namespace FeVerif
namespace Reader

def Sorted (l : List Ent) : Prop := l.Pairwise fun a b => a.offset < b.offset

theorem reposition_eq (cur : List Ent) (pos : Option Nat) : reposition cur pos = cur.findIdx (after pos) := by
  unfold reposition after
  cases cur with
  | nil => rfl
  | cons a r =>
    cases pos with
    | none => simp [List.findIdx_cons]
    | some p => simp

theorem findIdx_after_none (l : List Ent) : l.findIdx (after none) = 0 := by
  cases l <;> simp [List.findIdx_cons, after]

theorem findIdx_after_getElem (l : List Ent) (hs : Sorted l) (i : Nat) (hi : i < l.length) :
    l.findIdx (after (some (l[i]).offset)) = i + 1 := by
  induction l generalizing i with
  | nil => cases hi
  | cons a r ih =>
    obtain ⟨ha, hr⟩ := List.pairwise_cons.1 hs
    cases i with
    | zero =>
      cases r with
      | nil => simp [after]
      | cons b r' => simp [List.findIdx_cons, after, ha b]
    | succ i =>
      have hi' : i < r.length := Nat.lt_of_succ_lt_succ hi
      have := ha _ (List.getElem_mem hi')
      simp [List.findIdx_cons, after, Nat.lt_asymm this, ih hr i hi']

theorem findIdx_after_last (l : List Ent) (hs : Sorted l) (x : Ent) (hx : l.getLast? = some x) :
    l.findIdx (after (some x.offset)) = l.length := by
  rw [List.getLast?_eq_getElem?] at hx
  obtain ⟨h, rfl⟩ := List.getElem?_eq_some_iff.1 hx
  rw [findIdx_after_getElem l hs _ h]
  omega

/-- `seek(i)` remembers the offset of entry `i - 1` (nothing for `i = 0`); the first entry after it is entry `i`. -/
theorem findIdx_after_seek (l : List Ent) (hs : Sorted l) (i : Nat) (hi : i < l.length) :
    l.findIdx (after (if i = 0 then none else (l[i - 1]?).map (·.offset))) = i := by
  cases i with
  | zero => exact findIdx_after_none l
  | succ i =>
    rw [if_neg (Nat.succ_ne_zero i), Nat.add_sub_cancel, List.getElem?_eq_getElem (Nat.lt_of_succ_lt hi)]
    exact findIdx_after_getElem l hs i _

/-- The simulation relation.  `next` is the invariant proper: `next_index_elem` points at the first entry after the
last consumed offset; the two sortedness clauses are what keeps it true under every operation. -/
structure Rel (s : Cur) (a : Abs) : Prop where
  orig : s.orig = a.orig
  cur : s.cur = a.sel
  pos : s.prevOff = a.pos
  next : s.next = s.cur.findIdx (after s.prevOff)
  sortedOrig : Sorted s.orig
  sortedCur : Sorted s.cur

theorem Sorted.sublist {l l' : List Ent} (h : Sorted l) (hs : l'.Sublist l) : Sorted l' :=
  List.Pairwise.sublist hs h

theorem Rel.abs_eq {s : Cur} {a : Abs} (r : Rel s a) : a = ⟨s.orig, s.cur, s.prevOff⟩ := by
  cases a; cases r.orig; cases r.cur; cases r.pos; rfl

theorem rel_init {idx : List Ent} (h : Sorted idx) : Rel (Cur.init idx) ⟨idx, idx, none⟩ :=
  ⟨rfl, rfl, rfl, (findIdx_after_none idx).symm, h, h⟩

theorem rel_withCur {s : Cur} {a : Abs} (r : Rel s a) (c : List Ent) (hc : Sorted c) :
    Rel (s.withCur c) { a with sel := c } :=
  ⟨r.orig, rfl, r.pos, reposition_eq c s.prevOff, r.sortedOrig, hc⟩

theorem take_drop_sublist (l : List Ent) (i j : Nat) : ((l.take j).drop i).Sublist l :=
  (List.drop_sublist _ _).trans (List.take_sublist _ _)

theorem sliceByTime_sublist (idx : List Ent) (t0 start stop : Option Nat) (c : List Ent)
    (h : sliceByTime idx t0 start stop = some c) : c.Sublist idx := by
  unfold sliceByTime at h
  split at h
  · injection h with h; subst h; exact List.Sublist.refl _
  split at h
  · injection h with h; subst h; exact List.Sublist.refl _
  cases t0 with
  | none => cases h
  | some t =>
    injection h with h; subst h
    exact take_drop_sublist ..

theorem stride_sublist (k : Nat) (l : List Ent) : (stride k l).Sublist l := by
  fun_induction stride k l with
  | case1 => exact List.Sublist.refl _
  | case2 x xs ih => exact List.Sublist.cons_cons _ (ih.trans (List.drop_sublist _ _))

theorem step_sim (s : Cur) (a : Abs) (r : Rel s a) (op : Op) :
    (step s op).2 = (absStep a op).2 ∧ Rel (step s op).1 (absStep a op).1 := by
  obtain rfl := r.abs_eq
  have hnext := r.next
  have hso := r.sortedOrig
  have hsc := r.sortedCur
  cases op with
  | readNext =>
    dsimp only [step, absStep]
    -- the specification's `find?` of the first entry after the position is the model's `cur[next]?`
    rw [List.find?_eq_getElem?_findIdx, ← hnext]
    cases hg : s.cur[s.next]? with
    | none => exact ⟨rfl, r⟩
    | some e =>
      obtain ⟨hlt, rfl⟩ := List.getElem?_eq_some_iff.1 hg
      exact ⟨rfl, rfl, rfl, rfl, (findIdx_after_getElem s.cur hsc s.next hlt).symm, hso, hsc⟩
  | filterTypes _ | removeUntimed => exact ⟨rfl, rel_withCur r _ (hsc.sublist List.filter_sublist)⟩
  | filterTime tr =>
    dsimp only [step, absStep]
    cases hsl : sliceByRange s.cur (t0Of s.orig) tr with
    | none => exact ⟨rfl, r⟩
    | some c => exact ⟨rfl, rel_withCur r _ (hsc.sublist (sliceByTime_sublist _ _ _ _ _ hsl))⟩
  | filterSlice i j => exact ⟨rfl, rel_withCur r _ (hsc.sublist (take_drop_sublist ..))⟩
  | filterStride i j k =>
    exact ⟨rfl, rel_withCur r _ (hsc.sublist ((stride_sublist _ _).trans (take_drop_sublist ..)))⟩
  | clear => exact ⟨rfl, rel_withCur r _ hso⟩
  | rewind => exact ⟨rfl, rfl, rfl, rfl, (findIdx_after_none s.cur).symm, hso, hsc⟩
  | seek i filtered =>
    dsimp only [step, absStep]
    -- the filtered and the unfiltered index are treated at once, as a sorted list `l`
    have hl : Sorted (if filtered = true then s.cur else s.orig) := by split <;> assumption
    rw [← apply_ite List.length]
    generalize (if filtered = true then s.cur else s.orig) = l at hl ⊢
    by_cases hge : i ≥ l.length
    · rw [if_pos hge, if_pos hge]
      exact ⟨rfl, r⟩
    · rw [if_neg hge, if_neg hge]
      exact ⟨rfl, rfl, rfl, rfl, (findIdx_after_seek l hl i (Nat.lt_of_not_ge hge)).symm, hso, hl⟩
  | seekEof =>
    dsimp only [step, absStep]
    rw [List.find?_eq_getElem?_findIdx, ← hnext]
    by_cases hn : s.next = s.cur.length
    · rw [if_pos hn, hn, List.getElem?_eq_none (Nat.le_refl _)]
      exact ⟨rfl, r⟩
    · have hlt : s.next < s.cur.length := Nat.lt_of_le_of_ne (hnext ▸ List.findIdx_le_length) hn
      rw [if_neg hn, List.getElem?_eq_getElem hlt]
      cases hl : s.cur.getLast? with
      | none => rw [List.getLast?_eq_none_iff.1 hl] at hlt; cases hlt
      | some x => exact ⟨rfl, rfl, rfl, rfl, (findIdx_after_last s.cur hsc x hl).symm, hso, hsc⟩

end Reader
end FeVerif
