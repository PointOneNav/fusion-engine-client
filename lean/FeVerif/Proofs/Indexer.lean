/-
The indexer against the sequential scan of the file, in terms of file positions (`validAt`): the
sequential pass over candidates that are all acceptable, and complete and increasing up to some point, is
the scan (`sequentialPass_eq_scan`); the candidate loop of one block is a `filterMap` over positions whose
verdict on the bytes read is the file's verdict plus "ends inside what was read" (`candAt_slice_eq_some`).
-/
import FeVerif.Model.Indexer
import FeVerif.Proofs.Frame
import FeVerif.Proofs.Header

namespace FeVerif

namespace Indexer

open Cfg

theorem u16le_drop (bs : Bytes) (i k : Nat) : u16le (bs.drop i) k = u16le bs (i + k) :=
  FeVerif.u16le_drop bs i k

/-- The message the sequential scan's criteria accept at file position `p`, if any. -/
def validAt (file : Bytes) (p : Nat) : Option Nat :=
  match cfgFile.stepFile (file.drop p) with
  | .emit n => some n
  | _ => none

theorem validAt_eq_some {file : Bytes} {p n : Nat} :
    validAt file p = some n ↔ cfgFile.stepFile (file.drop p) = .emit n := by
  unfold validAt
  cases cfgFile.stepFile (file.drop p) <;> simp

theorem validAt_bounds {file : Bytes} {p n : Nat} (h : validAt file p = some n) :
    24 ≤ n ∧ p + n ≤ file.length := by
  obtain ⟨-, -, hn, hle, -⟩ := cfgFile_stepFile_emit.1 (validAt_eq_some.1 h)
  rw [List.length_drop] at hle
  unfold HDR at hn
  omega

theorem runFile_skip (file : Bytes) (q p : Nat) (hqp : q ≤ p)
    (hnone : ∀ x, q ≤ x → x < p → validAt file x = none) :
    cfgFile.runFile (file.drop q) q = cfgFile.runFile (file.drop p) p := by
  obtain ⟨d, rfl⟩ := Nat.exists_eq_add_of_le hqp
  induction d with
  | zero => rfl
  | succ d ih =>
    rw [ih (Nat.le_add_right q d) fun x h1 h2 => hnone x h1 (by omega), runFile_of_not_emit, List.drop_drop]
    · rfl
    · intro n hn
      have := hnone (q + d) (Nat.le_add_right q d) (by omega)
      rw [validAt_eq_some.2 hn] at this; cases this

theorem runFile_of_none_valid (file : Bytes) (q : Nat) (hnone : ∀ x, q ≤ x → validAt file x = none) :
    cfgFile.runFile (file.drop q) q = [] := by
  rw [runFile_skip file q (q + file.length) (Nat.le_add_right _ _) fun x h _ => hnone x h,
    List.drop_eq_nil_of_le (Nat.le_add_left _ _)]
  exact runFile_of_short _ cfgFile.hdrLen_pos

def offs (l : List Entry) : List (Nat × Nat) := l.map fun e => (e.off, e.size)

def AllValid (file : Bytes) (l : List Entry) : Prop := ∀ e ∈ l, validAt file e.off = some e.size

def Increasing : List Entry → Prop
  | [] => True
  | [_] => True
  | a :: b :: r => a.off < b.off ∧ Increasing (b :: r)

theorem increasing_iff_pairwise {l : List Entry} : Increasing l ↔ l.Pairwise (·.off < ·.off) := by
  induction l with
  | nil => simp [Increasing]
  | cons a r ih =>
    cases r with
    | nil => simp [Increasing]
    | cons b r =>
      rw [Increasing, ih, List.pairwise_cons (a := a)]
      constructor
      · rintro ⟨hab, hbr⟩
        refine ⟨fun x hx => ?_, hbr⟩
        rcases List.mem_cons.1 hx with rfl | hx
        · exact hab
        · exact Nat.lt_trans hab (List.rel_of_pairwise_cons hbr hx)
      · rintro ⟨ha, hbr⟩
        exact ⟨ha b List.mem_cons_self, hbr⟩

theorem sequentialPass_of_lt {prevEnd : Nat} {l : List Entry} (h : ∀ e ∈ l, e.off < prevEnd) :
    sequentialPass prevEnd l = [] := by
  induction l with
  | nil => rfl
  | cons e r ih =>
    rw [sequentialPass, if_neg (Nat.not_le.2 (h e List.mem_cons_self))]
    exact ih fun x hx => h x (List.mem_cons_of_mem _ hx)

/-- `l1` is increasing and lists every acceptable position from `prevEnd` on, so the pass walks it as the scan walks the
file; what follows it, `l2`, is acceptable and therefore starts before the position the scan has reached, and the
pass drops it. -/
theorem sequentialPass_eq_scan (file : Bytes) (l1 l2 : List Entry) (prevEnd : Nat)
    (hinc : Increasing l1) (hv1 : AllValid file l1) (hv2 : AllValid file l2)
    (hcomplete : ∀ p n, prevEnd ≤ p → validAt file p = some n → ∃ e ∈ l1, e.off = p) :
    offs (sequentialPass prevEnd (l1 ++ l2)) = cfgFile.runFile (file.drop prevEnd) prevEnd := by
  rw [increasing_iff_pairwise] at hinc
  induction l1 generalizing prevEnd with
  | nil =>
    have hnone : ∀ x, prevEnd ≤ x → validAt file x = none := fun x hx =>
      Option.eq_none_iff_forall_ne_some.2 fun n hn => by
        obtain ⟨e, he, _⟩ := hcomplete x n hx hn; cases he
    -- everything in `l2` is acceptable, hence starts before `prevEnd`
    have hlt : ∀ e ∈ l2, e.off < prevEnd := fun e he => Nat.lt_of_not_le fun hge => by
      have := hnone e.off hge
      rw [hv2 e he] at this; cases this
    rw [runFile_of_none_valid file prevEnd hnone, List.nil_append, sequentialPass_of_lt hlt]; rfl
  | cons e r ih =>
    obtain ⟨hlt, hinc⟩ := List.pairwise_cons.1 hinc
    have hv1' : AllValid file r := fun x hx => hv1 x (List.mem_cons_of_mem _ hx)
    rw [List.cons_append, sequentialPass]
    have hve := hv1 e List.mem_cons_self
    have hb := validAt_bounds hve
    -- an acceptable position other than `e.off` is listed in `r`, hence lies after `e.off`
    have hr : ∀ p n, prevEnd ≤ p → validAt file p = some n → p ≠ e.off → ∃ e' ∈ r, e'.off = p := by
      intro p n hp hvp hne
      obtain ⟨e', he', hoff⟩ := hcomplete p n hp hvp
      rcases List.mem_cons.1 he' with rfl | hin
      · exact absurd hoff.symm hne
      · exact ⟨e', hin, hoff⟩
    by_cases hge : e.off ≥ prevEnd
    · -- `e` is the first acceptable position at or after `prevEnd`
      have hfirst : ∀ x, prevEnd ≤ x → x < e.off → validAt file x = none := fun x h1 h2 =>
        Option.eq_none_iff_forall_ne_some.2 fun n hn => by
          obtain ⟨e', hin, hoff⟩ := hr x n h1 hn (by omega)
          have := hlt e' hin; omega
      rw [if_pos hge, runFile_skip file prevEnd e.off hge hfirst,
        runFile_emit (validAt_eq_some.1 hve), List.drop_drop]
      show (e.off, e.size) :: offs _ = _
      rw [ih (e.off + e.size) hinc hv1' fun p n hp hvp => hr p n (by omega) hvp (by omega)]
    · rw [if_neg hge]
      exact ih prevEnd hinc hv1' fun p n hp hvp => hr p n hp hvp (by omega)

theorem acceptAt_eq_some {data : Bytes} {i n : Nat} :
    acceptAt data i = some n ↔
      u32le data (i + 16) ≤ MAX_EXPECTED ∧ n = HDR + u32le data (i + 16) ∧ i + n ≤ data.length ∧
        (crc32 0#32 (slice data (i + 8) (16 + u32le data (i + 16)))).toNat = u32le data (i + 4) := by
  simp only [acceptAt, Option.ite_none_left_eq_some, Option.ite_none_right_eq_some, Option.some_inj]
  omega

/-- The indexer's per-candidate validation (sync word found by the search + `acceptAt`) is the
scan's verdict on the block's bytes from that position on. -/
theorem acceptAt_iff_stepFile (data : Bytes) (i n : Nat) :
    (byteAt data i = SYNC0 ∧ byteAt data (i + 1) = SYNC1 ∧ acceptAt data i = some n) ↔
      cfgFile.stepFile (data.drop i) = .emit n := by
  rw [cfgFile_stepFile_emit, fileHeaderOk_take, pyCrcOk_drop, acceptAt_eq_some, byteAt_drop, byteAt_drop,
    u32le_drop, Nat.add_zero i, List.length_drop]
  simp only [Bool.and_eq_true, decide_eq_true_eq]
  -- the same conditions on both sides, up to how the lengths are written
  have := HDR_eq
  omega

/-- What the candidate loop emits at position `j` of a block read at `b`. -/
def candAt (data : Bytes) (b j : Nat) : Option Entry :=
  if byteAt data j = SYNC0 ∧ byteAt data (j + 1) = SYNC1 then
    (acceptAt data j).map fun sz => ⟨b + j, sz, u16le data (j + 10)⟩
  else none

theorem candAt_eq_some {data : Bytes} {b j : Nat} {e : Entry} :
    candAt data b j = some e ↔
      (byteAt data j = SYNC0 ∧ byteAt data (j + 1) = SYNC1 ∧ acceptAt data j = some e.size) ∧
        e.off = b + j ∧ e.type = u16le data (j + 10) := by
  obtain ⟨off, size, type⟩ := e
  unfold candAt
  split
  · rename_i hs
    simp only [Option.map_eq_some_iff, Entry.mk.injEq, hs, true_and]
    constructor
    · rintro ⟨sz, ha, rfl, rfl, rfl⟩; exact ⟨ha, rfl, rfl⟩
    · rintro ⟨ha, rfl, rfl⟩; exact ⟨size, ha, rfl, rfl, rfl⟩
  · rename_i hs
    exact iff_of_false nofun fun h => hs ⟨h.1.1, h.1.2.1⟩

theorem candAt_slice_eq_some {file : Bytes} {b len j : Nat} {e : Entry} :
    candAt (slice file b len) b j = some e ↔
      e.off = b + j ∧ validAt file (b + j) = some e.size ∧ j + e.size ≤ len ∧
        e.type = u16le file (b + j + 10) := by
  have hd : (slice file b len).drop j = (file.drop (b + j)).take (len - j) := by
    unfold slice; rw [List.drop_take, List.drop_drop]
  rw [candAt_eq_some, acceptAt_iff_stepFile, hd, stepFile_emit_take, ← validAt_eq_some]
  -- a message has at least 24 bytes: `· ≤ len - j` is `j + · ≤ len`, and the type field was read
  constructor
  · rintro ⟨⟨hv, hfit⟩, ho, ht⟩
    have := (validAt_bounds hv).1
    exact ⟨ho, hv, by omega, by rw [ht, u16le_slice (by omega), Nat.add_assoc]⟩
  · rintro ⟨ho, hv, hfit, ht⟩
    have := (validAt_bounds hv).1
    exact ⟨⟨hv, by omega⟩, ho, by rw [ht, u16le_slice (by omega), Nat.add_assoc]⟩

theorem scanBlock_eq_filterMap (data : Bytes) (b limit i : Nat) :
    scanBlock data b limit i = (List.range' i (limit - i)).filterMap (candAt data b) := by
  have hr {i : Nat} (hi : i < limit) :
      List.range' i (limit - i) = i :: List.range' (i + 1) (limit - (i + 1)) := by
    rw [show limit - i = limit - (i + 1) + 1 by omega, List.range'_succ]
  fun_induction scanBlock data b limit i with
  | case1 i hi hs sz ha ih => rw [hr hi, List.filterMap_cons_some (by rw [candAt, if_pos hs, ha]; rfl), ih]
  | case2 i hi hs ha ih => rw [hr hi, List.filterMap_cons_none (by rw [candAt, if_pos hs, ha]; rfl), ih]
  | case3 i hi hs ih => rw [hr hi, List.filterMap_cons_none (by rw [candAt, if_neg hs]), ih]
  | case4 i hi => rw [show limit - i = 0 by omega]; rfl

end Indexer
end FeVerif
