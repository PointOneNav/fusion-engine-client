/-
Lemmas about the framing scan (`Cfg.run`, `Cfg.runFile`, and `Cfg.scan`, the view of `run` without stream
offsets).  Facts about a scan are proved by functional induction along its verdicts (`fun_induction`: cases
`stop`, `drop`, `emit` in this order).
-/
import FeVerif.Spec.Frame
import FeVerif.Proofs.Bytes

namespace FeVerif
namespace Cfg

variable {c : Cfg}

theorem run_stop {buf : Bytes} {off : Nat} (h : c.step buf = .stop) :
    c.run buf off = ⟨[], buf, off⟩ := by
  rw [run.eq_def]; split <;> simp_all

theorem run_drop {buf : Bytes} {off : Nat} (h : c.step buf = .drop) :
    c.run buf off = c.run (buf.drop 1) (off + 1) := by
  rw [run.eq_def]; split <;> simp_all

theorem run_emit {buf : Bytes} {off n : Nat} (h : c.step buf = .emit n) :
    c.run buf off = ⟨(off, n) :: (c.run (buf.drop n) (off + n)).msgs,
      (c.run (buf.drop n) (off + n)).rest, (c.run (buf.drop n) (off + n)).off⟩ := by
  rw [run.eq_def]; split <;> simp_all

/-- Induction along the verdicts of a scan of `buf`, for facts that do not speak of stream offsets. -/
theorem step_induction {motive : Bytes → Prop} (stop : ∀ buf, c.step buf = .stop → motive buf)
    (drop : ∀ buf, c.step buf = .drop → motive (buf.drop 1) → motive buf)
    (emit : ∀ buf n, c.step buf = .emit n → motive (buf.drop n) → motive buf) (buf : Bytes) : motive buf :=
  run.induct c (fun buf _ => motive buf) (fun buf _ => stop buf) (fun buf _ => drop buf)
    (fun buf _ => emit buf) buf 0

/-- Stream position `p`, seen from a scan started at `off` and from one started `k` bytes later. -/
theorem drop_drop_sub (buf : Bytes) {off k p : Nat} (h : off + k ≤ p) :
    (buf.drop k).drop (p - (off + k)) = buf.drop (p - off) := by
  rw [List.drop_drop]; congr 1; omega

theorem msgLen_append {buf more : Bytes} (h : c.hdrLen ≤ buf.length) :
    c.msgLen (buf ++ more) = c.msgLen buf := by
  unfold msgLen
  rw [List.take_append_of_le_length h]

theorem step_append_of_ne_stop {buf : Bytes} (more : Bytes) (h : c.step buf ≠ .stop) :
    c.step (buf ++ more) = c.step buf := by
  have h1 := hdrLen_le_of_ne_stop h
  have h1' : ¬ buf.length + more.length < c.hdrLen := by omega
  unfold step
  rw [msgLen_append h1, List.take_append_of_le_length h1, List.length_append, if_neg h1',
    if_neg (Nat.not_lt.2 h1)]
  by_cases h2 : c.headerOk (buf.take c.hdrLen) = false
  · rw [if_pos h2, if_pos h2]
  · have h3 : ¬ buf.length < c.msgLen buf := fun hl => h (step_stop_iff.2 (.inr ⟨by simpa using h2, hl⟩))
    have h3' : ¬ buf.length + more.length < c.msgLen buf := by omega
    rw [if_neg h2, if_neg h2, if_neg h3, if_neg h3', List.take_append_of_le_length (Nat.not_lt.1 h3)]

theorem step_of_take {buf : Bytes} {k : Nat} (h : c.step (buf.take k) ≠ .stop) :
    c.step buf = c.step (buf.take k) := by
  have := step_append_of_ne_stop (buf.drop k) h
  rwa [List.take_append_drop] at this

theorem step_emit_take {buf : Bytes} {n k : Nat} (h : c.step buf = .emit n) (hk : n ≤ k) :
    c.step (buf.take k) = .emit n := by
  obtain ⟨h1, h2, rfl, h4, h5⟩ := step_emit_iff.1 h
  have hh := c.hdrLen_le_msgLen buf
  have e : (buf.take k).take c.hdrLen = buf.take c.hdrLen := by
    rw [List.take_take, Nat.min_eq_left (by omega)]
  refine step_emit_iff.2 ⟨?_, e ▸ h2, ?_, ?_, ?_⟩
  · rw [List.length_take]; omega
  · unfold msgLen; rw [e]
  · rw [List.length_take]; omega
  · rwa [List.take_take, Nat.min_eq_left hk]

theorem run_append (buf more : Bytes) (off : Nat) :
    c.run (buf ++ more) off =
      ⟨(c.run buf off).msgs ++ (c.run ((c.run buf off).rest ++ more) (c.run buf off).off).msgs,
       (c.run ((c.run buf off).rest ++ more) (c.run buf off).off).rest,
       (c.run ((c.run buf off).rest ++ more) (c.run buf off).off).off⟩ := by
  fun_induction run c buf off with
  | case1 => rfl
  | case2 buf off h ih =>
    rw [run_drop (by rw [step_append_of_ne_stop more (by simp [h]), h]),
      List.drop_append_of_le_length (step_drop_pos h), ih]
  | case3 buf off n h ih =>
    rw [run_emit (by rw [step_append_of_ne_stop more (by simp [h]), h]),
      List.drop_append_of_le_length (step_emit_pos h).2, ih]
    rfl

theorem run_conserve (buf : Bytes) (off : Nat) :
    (c.run buf off).off + (c.run buf off).rest.length = off + buf.length := by
  fun_induction run c buf off with
  | case1 => rfl
  | case2 buf off h ih => have := step_drop_pos h; rw [List.length_drop] at ih; omega
  | case3 buf off n h ih => have := step_emit_pos h; rw [List.length_drop] at ih; dsimp only; omega

theorem run_rest (buf : Bytes) (off : Nat) :
    c.step (c.run buf off).rest = .stop ∧
      (c.run buf off).rest = buf.drop ((c.run buf off).off - off) ∧ off ≤ (c.run buf off).off := by
  fun_induction run c buf off with
  | case1 buf off h => exact ⟨h, by simp, Nat.le_refl _⟩
  | case2 buf off h ih => exact ⟨ih.1, ih.2.1.trans (drop_drop_sub buf ih.2.2), by omega⟩
  | case3 buf off n h ih => exact ⟨ih.1, ih.2.1.trans (drop_drop_sub buf ih.2.2), by dsimp only; omega⟩

/-- Accepted messages: each lies inside the scanned bytes at its reported offset, is accepted on its
own bytes, and they are listed in increasing, non-overlapping order starting at or after `lo`. -/
def Sound (c : Cfg) (buf : Bytes) (off : Nat) (lo : Nat) : List (Nat × Nat) → Prop
  | [] => True
  | (o, n) :: rest =>
      lo ≤ o ∧ 0 < n ∧ o + n ≤ off + buf.length ∧
      c.step (buf.drop (o - off)) = .emit n ∧ Sound c buf off (o + n) rest

theorem sound_drop {buf : Bytes} {off lo lo' k : Nat} {l : List (Nat × Nat)} (hk : k ≤ buf.length)
    (hlo' : lo' ≤ lo) (hlo : off + k ≤ lo)
    (h : Sound c (buf.drop k) (off + k) lo l) : Sound c buf off lo' l := by
  induction l generalizing lo lo' with
  | nil => trivial
  | cons p rest ih =>
    obtain ⟨h1, h2, h3, h4, h5⟩ := h
    rw [List.length_drop] at h3
    rw [drop_drop_sub buf (by omega)] at h4
    exact ⟨by omega, h2, by omega, h4, ih (Nat.le_refl _) (by omega) h5⟩

theorem sound_mem {buf : Bytes} {off lo : Nat} {l : List (Nat × Nat)} (h : Sound c buf off lo l)
    {o n : Nat} (hm : (o, n) ∈ l) :
    lo ≤ o ∧ 0 < n ∧ o + n ≤ off + buf.length ∧ c.step (buf.drop (o - off)) = .emit n := by
  induction l generalizing lo with
  | nil => cases hm
  | cons p rest ih =>
    obtain ⟨h1, h2, h3, h4, h5⟩ := h
    rcases List.mem_cons.1 hm with rfl | hm'
    · exact ⟨h1, h2, h3, h4⟩
    · have := ih h5 hm'
      exact ⟨by omega, this.2⟩

theorem sound_pairwise {buf : Bytes} {off lo : Nat} {l : List (Nat × Nat)} (h : Sound c buf off lo l) :
    l.Pairwise fun a b => a.1 + a.2 ≤ b.1 := by
  induction l generalizing lo with
  | nil => exact .nil
  | cons p rest ih => exact .cons (fun e he => (sound_mem h.2.2.2.2 he).1) (ih h.2.2.2.2)

theorem run_sound (buf : Bytes) (off : Nat) : Sound c buf off off (c.run buf off).msgs := by
  fun_induction run c buf off with
  | case1 => trivial
  | case2 buf off h ih => exact sound_drop (step_drop_pos h) (by omega) (Nat.le_refl _) ih
  | case3 buf off n h ih =>
    have hn := step_emit_pos h
    exact ⟨Nat.le_refl _, hn.1, by omega, by simpa using h,
      sound_drop hn.2 (Nat.le_refl _) (Nat.le_refl _) ih⟩

theorem run_complete (buf : Bytes) (off p n : Nat) (hp : off ≤ p) (hp2 : p < (c.run buf off).off)
    (hv : c.step (buf.drop (p - off)) = .emit n) :
    ∃ o l, (o, l) ∈ (c.run buf off).msgs ∧ o ≤ p ∧ p < o + l := by
  fun_induction run c buf off with
  | case1 => exact absurd hp2 (Nat.not_lt.2 hp)
  | case2 buf off h ih =>
    have hne : p ≠ off := fun e => by rw [e, Nat.sub_self, List.drop_zero, h] at hv; cases hv
    have hp' : off + 1 ≤ p := by omega
    exact ih hp' hp2 (by rwa [drop_drop_sub buf hp'])
  | case3 buf off m h ih =>
    by_cases hp' : off + m ≤ p
    · obtain ⟨o, l, h1, h23⟩ := ih hp' hp2 (by rwa [drop_drop_sub buf hp'])
      exact ⟨o, l, List.mem_cons_of_mem _ h1, h23⟩
    · exact ⟨off, m, List.mem_cons_self, hp, by omega⟩

/-- **Delivery time.**  A message of the scan of `pre ++ post` that ends within `pre` is a message of
the scan of `pre` already, unless that scan is still waiting on an earlier candidate: it stopped before
`o` on an accepted header whose message runs past the end of `pre`. -/
theorem run_delivered (pre post : Bytes) (off o n : Nat)
    (hmem : (o, n) ∈ (c.run (pre ++ post) off).msgs) (hend : o + n ≤ off + pre.length) :
    (o, n) ∈ (c.run pre off).msgs ∨
      ((c.run pre off).off < o ∧ c.headerOk ((c.run pre off).rest.take c.hdrLen) = true ∧
        (c.run pre off).rest.length < c.msgLen (c.run pre off).rest) := by
  rw [run_append] at hmem
  rcases List.mem_append.1 hmem with h | h
  · exact .inl h
  right
  -- found by the resumed scan: it starts at or after the position reached and is accepted there
  obtain ⟨hlo, _, _, hstep⟩ := sound_mem (run_sound _ _) h
  have hcons := run_conserve (c := c) pre off
  have hn := hdrLen_le_of_emit hstep
  rcases step_stop_iff.1 (run_rest (c := c) pre off).1 with hshort | ⟨hok, hinc⟩
  · -- fewer than a header left of `pre`: impossible, the whole message lies in `pre` behind the position reached
    omega
  refine ⟨Nat.lt_of_le_of_ne hlo fun e => ?_, hok, hinc⟩
  -- at the position reached the pending candidate would be the message itself, which is complete
  rw [← e, Nat.sub_self, List.drop_zero] at hstep
  have := (step_emit_iff.1 hstep).2.2.1
  rw [msgLen_append (by omega)] at this
  omega

theorem runFile_stop {buf : Bytes} {off : Nat} (h : c.stepFile buf = .stop) :
    c.runFile buf off = [] := by
  rw [runFile.eq_def]; split <;> simp_all

theorem runFile_drop {buf : Bytes} {off : Nat} (h : c.stepFile buf = .drop) :
    c.runFile buf off = c.runFile (buf.drop 1) (off + 1) := by
  rw [runFile.eq_def]; split <;> simp_all

theorem runFile_emit {buf : Bytes} {off n : Nat} (h : c.stepFile buf = .emit n) :
    c.runFile buf off = (off, n) :: c.runFile (buf.drop n) (off + n) := by
  rw [runFile.eq_def]; split <;> simp_all

theorem runFile_of_short {buf : Bytes} (off : Nat) (h : buf.length < c.hdrLen) : c.runFile buf off = [] :=
  runFile_stop (stepFile_stop_iff.2 h)

/-- A position that is not the start of a message is passed over (at the end of the file as well:
both sides are empty then). -/
theorem runFile_of_not_emit {buf : Bytes} (off : Nat) (h : ∀ n, c.stepFile buf ≠ .emit n) :
    c.runFile buf off = c.runFile (buf.drop 1) (off + 1) := by
  cases hs : c.stepFile buf with
  | emit n => exact absurd hs (h n)
  | drop => exact runFile_drop hs
  | stop =>
    have := stepFile_stop_iff.1 hs
    rw [runFile_stop hs, runFile_of_short _ (by rw [List.length_drop]; omega)]

theorem stepFile_of_step {buf : Bytes} (h : c.step buf ≠ .stop) : c.stepFile buf = c.step buf := by
  rw [stepFile_eq, if_neg fun h' => h h'.1]

theorem runFile_eq_run_append (buf : Bytes) (off : Nat) :
    c.runFile buf off = (c.run buf off).msgs ++ c.runFile (c.run buf off).rest (c.run buf off).off := by
  fun_induction run c buf off with
  | case1 => rfl
  | case2 buf off h ih => rw [runFile_drop (by rw [stepFile_of_step (by simp [h]), h]), ih]
  | case3 buf off n h ih => rw [runFile_emit (stepFile_emit_iff.2 h), ih]; rfl

theorem runFile_sound (buf : Bytes) (off : Nat) : Sound c buf off off (c.runFile buf off) := by
  fun_induction runFile c buf off with
  | case1 => trivial
  | case2 buf off h ih => exact sound_drop (stepFile_drop_pos h) (by omega) (Nat.le_refl _) ih
  | case3 buf off n h ih =>
    have hn := stepFile_emit_pos h
    exact ⟨Nat.le_refl _, hn.1, by omega, by simpa using stepFile_emit_iff.1 h,
      sound_drop hn.2 (Nat.le_refl _) (Nat.le_refl _) ih⟩

theorem runFile_ge (buf : Bytes) (off : Nat) :
    ∀ e ∈ c.runFile buf off, off ≤ e.1 ∧ e.1 + e.2 ≤ off + buf.length :=
  fun _ he => have h := sound_mem (runFile_sound buf off) he; ⟨h.1, h.2.2.1⟩

theorem runFile_mem_valid (buf : Bytes) (off : Nat) :
    ∀ e ∈ c.runFile buf off, c.stepFile (buf.drop (e.1 - off)) = .emit e.2 :=
  fun _ he => stepFile_emit_iff.2 (sound_mem (runFile_sound buf off) he).2.2.2

theorem runFile_pairwise (buf : Bytes) (off : Nat) :
    (c.runFile buf off).Pairwise fun a b => a.1 + a.2 ≤ b.1 :=
  sound_pairwise (runFile_sound buf off)

theorem stepFile_emit_take (buf : Bytes) (k n : Nat) :
    c.stepFile (buf.take k) = .emit n ↔ c.stepFile buf = .emit n ∧ n ≤ k := by
  simp only [stepFile_emit_iff]
  refine ⟨fun h => ⟨by rw [step_of_take (k := k) (by simp [h]), h], ?_⟩, fun h => step_emit_take h.1 h.2⟩
  have := (step_emit_pos h).2
  rw [List.length_take] at this
  omega

theorem stepFile_take_drop {buf : Bytes} {k : Nat} (h : c.stepFile buf = .drop) (hk : c.hdrLen ≤ k)
    (hk' : k ≤ buf.length) : c.stepFile (buf.take k) = .drop := by
  cases hs : c.stepFile (buf.take k) with
  | drop => rfl
  | stop => rw [stepFile_stop_iff, List.length_take] at hs; omega
  | emit n => rw [((stepFile_emit_take buf k n).1 hs).1] at h; cases h

/-- `m` is where the file is cut, counted in `buf`; `hend` ties it to the stream offsets of the scan.  Before the cut
every verdict is what it was (`stepFile_emit_take`, `stepFile_take_drop`); at the cut nothing is left. -/
theorem runFile_take_of_append {buf : Bytes} {off m o n : Nat} {l1 l2 : List (Nat × Nat)}
    (hm : m ≤ buf.length) (h : c.runFile buf off = l1 ++ (o, n) :: l2) (hend : o + n = off + m) :
    c.runFile (buf.take m) off = l1 ++ [(o, n)] := by
  fun_induction runFile c buf off generalizing m l1 with
  | case1 => cases l1 <;> cases h
  | case2 buf off hs ih =>
    -- the message lies behind the dropped byte and is at least a header long
    have hmem : (o, n) ∈ c.runFile (buf.drop 1) (off + 1) := by rw [h]; simp
    have he := runFile_ge _ _ _ hmem
    have hn := hdrLen_le_of_emit (stepFile_emit_iff.1 (runFile_mem_valid _ _ _ hmem))
    rw [List.length_drop] at he
    rw [runFile_drop (stepFile_take_drop hs (by omega) hm), List.drop_take]
    exact ih (by rw [List.length_drop]; omega) h (by omega)
  | case3 buf off k hs ih =>
    cases l1 with
    | nil =>
      obtain ⟨ho, hk⟩ := Prod.mk.inj (List.cons.inj h).1
      subst ho hk
      obtain rfl : k = m := by omega
      rw [runFile_emit ((stepFile_emit_take buf k k).2 ⟨hs, Nat.le_refl _⟩), List.drop_take, Nat.sub_self,
        List.take_zero, runFile_of_short (buf := []) _ c.hdrLen_pos]
      rfl
    | cons p l1 =>
      rw [List.cons_append, List.cons.injEq] at h
      obtain ⟨rfl, h⟩ := h
      have he := runFile_ge _ _ _ (show (o, n) ∈ c.runFile (buf.drop k) (off + k) by rw [h]; simp)
      rw [runFile_emit ((stepFile_emit_take buf m k).2 ⟨hs, by omega⟩), List.drop_take,
        ih (by rw [List.length_drop]; omega) h (by omega)]
      rfl

theorem runFile_take (buf : Bytes) (off m o n : Nat) (hm : m ≤ buf.length)
    (hmem : (o, n) ∈ c.runFile buf off) (hend : o + n = off + m) :
    ∃ l1 l2, c.runFile buf off = l1 ++ (o, n) :: l2 ∧ c.runFile (buf.take m) off = l1 ++ [(o, n)] := by
  obtain ⟨l1, l2, h⟩ := List.append_of_mem hmem
  exact ⟨l1, l2, h, runFile_take_of_append hm h hend⟩

/-- The accepted messages as the bytes of the stream at the accepted `(offset, length)`, and the bytes the scan
cannot judge yet.  Used where callbacks carry bytes, not offsets (C14; C07 through `msgBytes`, see `msgBytes_run`). -/
def scan (c : Cfg) (buf : Bytes) : List Bytes × Bytes :=
  ((c.run buf 0).msgs.map (fun p => slice buf p.1 p.2), (c.run buf 0).rest)

theorem run_shift (buf : Bytes) (off d : Nat) :
    c.run buf (off + d) =
      ⟨(c.run buf off).msgs.map (fun p => (p.1 + d, p.2)), (c.run buf off).rest, (c.run buf off).off + d⟩ := by
  fun_induction run c buf off with
  | case1 buf off h => rw [run_stop h]; rfl
  | case2 buf off h ih => rw [run_drop h, Nat.add_right_comm, ih]
  | case3 buf off n h ih => rw [run_emit h, Nat.add_right_comm, ih]; rfl

theorem scan_stop {buf : Bytes} (h : c.step buf = .stop) : c.scan buf = ([], buf) := by
  rw [scan, run_stop h]; rfl

theorem scan_drop {buf : Bytes} (h : c.step buf = .drop) : c.scan buf = c.scan (buf.drop 1) := by
  rw [scan, run_drop h, run_shift (buf.drop 1) 0 1, List.map_map]
  simp only [Function.comp_def, ← slice_drop]
  rfl

theorem scan_emit {buf : Bytes} {n : Nat} (h : c.step buf = .emit n) :
    c.scan buf = (buf.take n :: (c.scan (buf.drop n)).1, (c.scan (buf.drop n)).2) := by
  rw [scan, run_emit h, run_shift (buf.drop n) 0 n, List.map_cons, List.map_map]
  simp only [Function.comp_def, ← slice_drop]
  rfl

theorem scan_append (buf more : Bytes) :
    c.scan (buf ++ more) =
      ((c.scan buf).1 ++ (c.scan ((c.scan buf).2 ++ more)).1, (c.scan ((c.scan buf).2 ++ more)).2) := by
  induction buf using step_induction (c := c) with
  | stop buf h => rw [scan_stop h]; rfl
  | drop buf h ih =>
    rw [scan_drop (by rw [step_append_of_ne_stop more (by simp [h]), h]), scan_drop h,
      List.drop_append_of_le_length (step_drop_pos h), ih]
  | emit buf n h ih =>
    have hn := (step_emit_pos h).2
    rw [scan_emit (by rw [step_append_of_ne_stop more (by simp [h]), h]), scan_emit h,
      List.drop_append_of_le_length hn, List.take_append_of_le_length hn, ih]
    rfl

theorem run_congr {c₁ c₂ : Cfg} (h : ∀ buf, c₁.step buf = c₂.step buf) (buf : Bytes) (off : Nat) :
    c₁.run buf off = c₂.run buf off := by
  fun_induction run c₁ buf off with
  | case1 buf off hs => rw [run_stop (c := c₂) (h buf ▸ hs)]
  | case2 buf off hs ih => rw [run_drop (c := c₂) (h buf ▸ hs), ih]
  | case3 buf off n hs ih => rw [run_emit (c := c₂) (h buf ▸ hs), ih]

end Cfg

end FeVerif
