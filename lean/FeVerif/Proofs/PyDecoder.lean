/-
The Python decoder loop refines the framing scan `Cfg.run (cfgPy max)`.
-/
import FeVerif.Model.PyDecoder
import FeVerif.Proofs.Frame
import FeVerif.Proofs.Header

namespace FeVerif

/-- The cached header, when there is one, is the accepted header at the front of the buffer. -/
def PyDec.Inv (m : Nat) (s : PyDec) : Prop :=
  match s.hdr with
  | none => True
  | some p => HDR ≤ s.buf.length ∧ pyHeaderOk m (s.buf.take HDR) = true ∧ p = u32le s.buf 16

/-- The state in which the loop stops on buffer `buf`: a header is cached exactly when 24 bytes are
there (they then form an accepted header whose message is still incomplete). -/
def PyDec.stopped (buf : Bytes) (processed : Nat) : PyDec :=
  ⟨buf, if HDR ≤ buf.length then some (u32le buf 16) else none, processed⟩

theorem pyIter_of_long {m : Nat} {s : PyDec} (hinv : s.Inv m) (hl : HDR ≤ s.buf.length) :
    pyIter m s =
      if pyHeaderOk m (s.buf.take HDR) = false then .cont s.pop else pyBody s (u32le s.buf 16) := by
  unfold pyIter
  rw [if_neg (by omega)]
  unfold PyDec.Inv at hinv
  split
  next p hp =>
    rw [hp] at hinv
    rw [if_neg (by simp [hinv.2.1]), hinv.2.2]
  next =>
    rw [pyHeaderOk_take]
    by_cases a0 : byteAt s.buf 0 ≠ SYNC0
    · rw [if_pos a0, if_pos (by simp [a0])]
    by_cases a1 : byteAt s.buf 1 ≠ SYNC1
    · rw [if_neg a0, if_pos a1, if_pos (by simp [a1])]
    by_cases a2 : u16le s.buf 2 ≠ 0
    · rw [if_neg a0, if_neg a1, if_pos a2, if_pos (by simp [a2])]
    by_cases a3 : u32le s.buf 16 > m
    · rw [if_neg a0, if_neg a1, if_neg a2, if_pos a3, if_pos (by simp; omega)]
    · rw [if_neg a0, if_neg a1, if_neg a2, if_neg a3, if_neg (by simp [*])]

theorem pyIter_step (m : Nat) (s : PyDec) (hinv : s.Inv m) :
    pyIter m s = match (cfgPy m).step s.buf with
      | .stop => .brk (PyDec.stopped s.buf s.processed)
      | .drop => .cont s.pop
      | .emit n => .emit s.processed n ⟨s.buf.drop n, none, s.processed + n⟩ := by
  rw [cfgPy_step]
  by_cases hl : s.buf.length < HDR
  · rw [if_pos hl, pyIter, if_pos hl]
    obtain ⟨buf, hdr, pr⟩ := s
    cases hdr with
    | none => simp [PyDec.stopped, Nat.not_le.2 hl]
    | some p => exact absurd hinv.1 (Nat.not_le.2 hl)
  rw [if_neg hl, pyIter_of_long hinv (by omega)]
  by_cases hh : pyHeaderOk m (s.buf.take HDR) = false
  · rw [if_pos hh, if_pos hh]
  rw [if_neg hh, if_neg hh, pyBody]
  by_cases h3 : s.buf.length < HDR + u32le s.buf 16
  · rw [if_pos h3, if_pos h3]
    simp [PyDec.stopped, Nat.not_lt.1 hl]
  rw [if_neg h3, if_neg h3]
  by_cases h4 : pyCrcOk s.buf = true
  · rw [if_pos h4, if_neg (by simp [h4])]
  · rw [if_neg h4, if_pos (by simpa using h4)]

theorem pyLoop_brk {m : Nat} {s s' : PyDec} (h : pyIter m s = .brk s') : pyLoop m s = ([], s') := by
  rw [pyLoop.eq_def]; split <;> simp_all

theorem pyLoop_cont {m : Nat} {s s' : PyDec} (h : pyIter m s = .cont s') :
    pyLoop m s = pyLoop m s' := by
  rw [pyLoop.eq_def]; split <;> simp_all

theorem pyLoop_emit {m : Nat} {s s' : PyDec} {o l : Nat} (h : pyIter m s = .emit o l s') :
    pyLoop m s = ((o, l) :: (pyLoop m s').1, (pyLoop m s').2) := by
  rw [pyLoop.eq_def]; split <;> simp_all

theorem pyLoop_refines (m : Nat) (s : PyDec) (hinv : s.Inv m) :
    pyLoop m s = (((cfgPy m).run s.buf s.processed).msgs,
      PyDec.stopped ((cfgPy m).run s.buf s.processed).rest ((cfgPy m).run s.buf s.processed).off) := by
  obtain ⟨buf, hdr, off⟩ := s
  dsimp only
  fun_induction Cfg.run (cfgPy m) buf off generalizing hdr with
  | case1 buf off h =>
    have hit := pyIter_step m _ hinv; rw [h] at hit
    exact pyLoop_brk hit
  | case2 buf off h ih =>
    have hit := pyIter_step m _ hinv; rw [h] at hit
    rw [pyLoop_cont hit]; exact ih none trivial
  | case3 buf off n h ih =>
    have hit := pyIter_step m _ hinv; rw [h] at hit
    rw [pyLoop_emit hit, ih none trivial]

theorem stopped_append_inv (m : Nat) (buf more : Bytes) (off : Nat)
    (hstop : (cfgPy m).step buf = .stop) :
    PyDec.Inv m ⟨buf ++ more, (PyDec.stopped buf off).hdr, off⟩ := by
  unfold PyDec.stopped PyDec.Inv
  by_cases h : HDR ≤ buf.length
  · simp only [if_pos h]
    rcases Cfg.step_stop_iff.1 hstop with h' | h'
    · exact absurd h (Nat.not_le.2 h')
    · exact ⟨by rw [List.length_append]; omega, by rw [List.take_append_of_le_length h]; exact h'.1,
        (u32le_append (by unfold HDR at h; omega)).symm⟩
  · simp only [if_neg h]

theorem pyOnData_stopped (m : Nat) (buf d : Bytes) (off : Nat) (hstop : (cfgPy m).step buf = .stop) :
    pyOnData m (PyDec.stopped buf off) d =
      (((cfgPy m).run (buf ++ d) off).msgs,
        PyDec.stopped ((cfgPy m).run (buf ++ d) off).rest ((cfgPy m).run (buf ++ d) off).off) := by
  unfold pyOnData
  split
  next hd => rw [List.eq_nil_of_length_eq_zero hd, List.append_nil, Cfg.run_stop hstop]
  · exact pyLoop_refines m _ (stopped_append_inv m buf d off hstop)

theorem pyFeed_eq_run (m : Nat) (chunks : List Bytes) (buf : Bytes) (off : Nat)
    (hstop : (cfgPy m).step buf = .stop) :
    pyFeed m (PyDec.stopped buf off) chunks =
      (((cfgPy m).run (buf ++ chunks.flatten) off).msgs,
        PyDec.stopped ((cfgPy m).run (buf ++ chunks.flatten) off).rest
          ((cfgPy m).run (buf ++ chunks.flatten) off).off) := by
  induction chunks generalizing buf off with
  | nil => rw [pyFeed, List.flatten_nil, List.append_nil, Cfg.run_stop hstop]
  | cons d ds ih =>
    rw [pyFeed, pyOnData_stopped m buf d off hstop, ih _ _ (Cfg.run_rest (buf ++ d) off).1,
      List.flatten_cons, ← List.append_assoc, Cfg.run_append (buf ++ d)]

end FeVerif
