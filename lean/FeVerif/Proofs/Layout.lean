/-
C01 — the round trip of the layout language.  One invariant (`RT`, `RTC` for switch cases) is carried through one
induction over `Layout`/`Cases` (`rt`): what a chain parsed can be built from the values, the counts the values determine
are bounded by the counts that were read, and the bytes built parse back to the same values under any count
context that agrees with the values (`Inv`).  Nested layouts, array elements and switch cases need no count context
(nested regions and switch cases are still parsed with the outer tag context `ts`) and share one notion, `Closed`.
Value codecs enter through the law `Stable`.
-/
import FeVerif.Model.Layout
import FeVerif.Proofs.Bytes

namespace FeVerif
namespace Lay

theorem leNat_lt : ∀ (b : Bytes), leNat b < 256 ^ b.length
  | [] => by simp [leNat]
  | x :: r => by
    have ih := leNat_lt r
    have hx : x.toNat < 256 := x.toNat_lt
    simp only [leNat, List.length_cons, Nat.pow_succ]
    omega

theorem leNat_leBytes : ∀ (w n : Nat), n < 256 ^ w → leNat (leBytes w n) = n
  | 0, n, h => by simp at h; simp [leBytes, leNat, h]
  | w + 1, n, h => by
    have hd : n / 256 < 256 ^ w := Nat.div_lt_of_lt_mul (by rw [Nat.mul_comm]; exact h)
    have ih := leNat_leBytes w (n / 256) hd
    simp only [leBytes, leNat, ih]
    rw [toNat_ofNat_mod]; omega

theorem leBytes_leNat : ∀ (b : Bytes), leBytes b.length (leNat b) = b
  | [] => rfl
  | x :: r => by
    have hx : x.toNat < 256 := x.toNat_lt
    simp only [List.length_cons, leBytes, leNat]
    have h1 : (x.toNat + 256 * leNat r) % 256 = x.toNat := by omega
    have h2 : (x.toNat + 256 * leNat r) / 256 = leNat r := by omega
    rw [h1, h2, leBytes_leNat r]
    simp

@[simp] theorem zeros_length (n : Nat) : (zeros n).length = n := by simp [zeros]

theorem stripZ_append_zeros (b : Bytes) (k : Nat) : stripZ (b ++ zeros k) = stripZ b := by
  unfold stripZ
  rw [List.reverse_append, List.dropWhile_append_of_pos]
  intro a ha
  simp [(List.mem_replicate.1 (List.mem_reverse.1 ha)).2]

theorem stripZ_idem (b : Bytes) : stripZ (stripZ b) = stripZ b := by
  unfold stripZ
  simp only [List.reverse_reverse]
  generalize b.reverse = l
  induction l with
  | nil => simp
  | cons x r ih =>
    by_cases hx : (x == 0) = true
    · simp [hx, ih]
    · simp [hx]

theorem isAscii_append (a b : Bytes) : isAscii (a ++ b) = (isAscii a && isAscii b) := by
  simp [isAscii, List.all_append]

theorem isAscii_zeros (k : Nat) : isAscii (zeros k) = true := by
  simp [isAscii, zeros]

theorem stripZ_sublist (b : Bytes) : (stripZ b).Sublist b := by
  simpa [stripZ] using (List.dropWhile_sublist (fun x => x == 0) (l := b.reverse)).reverse

theorem isAscii_stripZ (b : Bytes) (h : isAscii b = true) : isAscii (stripZ b) = true :=
  List.all_eq_true.2 fun x hx => List.all_eq_true.1 h x ((stripZ_sublist b).subset hx)

/-- Fixed-width text (`construct.PaddedString`): stripped and NUL padded again, it reads back the same. -/
theorem text_padded (b : Bytes) (k : Nat) :
    stripZ (stripZ b ++ zeros k) = stripZ b ∧ (isAscii b = true → isAscii (stripZ b ++ zeros k) = true) := by
  refine ⟨by rw [stripZ_append_zeros, stripZ_idem], fun h => ?_⟩
  rw [isAscii_append, isAscii_stripZ b h, isAscii_zeros]; rfl

/-- The law a value codec must satisfy for the round trip.  It asks for some `r'` that encodes the value, not for
`enc (dec r) = r`: `bool`, the NaN-boxing float codecs and `discard` normalise (any non-zero byte reads as 1, every
NaN pattern as the quiet NaN, any content as the fill value). -/
def Stable (c : Codec) (w : Nat) : Prop :=
  ∀ r, r < 256 ^ w → ∀ v, c.dec w r = some v →
    ∃ r', r' < 256 ^ w ∧ c.enc w v = some r' ∧ c.dec w r' = some v

theorem Stable.of_enc_dec {c : Codec} {w : Nat}
    (h : ∀ r, r < 256 ^ w → ∀ v, c.dec w r = some v → c.enc w v = some r) : Stable c w :=
  fun r hr v hd => ⟨r, hr, h r hr v hd, hd⟩

theorem uint_stable (w : Nat) : Stable uintCodec w :=
  .of_enc_dec fun r hr v hd => by cases hd; simp [uintCodec, hr]

theorem sint_stable (w : Nat) (h : 1 ≤ w) : Stable sintCodec w :=
  .of_enc_dec fun r hr v hd => by
    have he : 2 * (256 ^ w / 2) = 256 ^ w :=
      Nat.mul_div_cancel' (Nat.dvd_trans (by decide : 2 ∣ 256 ^ 1) (Nat.pow_dvd_pow 256 h))
    simp only [sintCodec] at hd ⊢
    generalize 256 ^ w = M at *
    split at hd <;> cases hd
    · rename_i hlt
      simp [hlt]
    · have h0 : ¬ (0 : Int) ≤ (r : Int) - (M : Int) := by omega
      have h1 : (-((r : Int) - (M : Int))).toNat ≤ M / 2 := by omega
      have h2 : M - (-((r : Int) - (M : Int))).toNat = r := by omega
      simp only [if_neg h0, if_pos h1, h2]

theorem bool_stable (w : Nat) (h : 1 ≤ w) : Stable boolCodec w := by
  intro r _ v hd
  have h1 : 1 < 256 ^ w := Nat.one_lt_pow (by omega) (by decide)
  simp only [boolCodec, Option.some.injEq] at hd
  subst hd
  by_cases hz : r = 0
  · exact ⟨0, by omega, by simp [boolCodec, hz], by simp [boolCodec, hz]⟩
  · exact ⟨1, h1, by simp [boolCodec, hz], by simp [boolCodec, hz]⟩

/-- The shape of `f32Codec` and `f64Codec`: bit patterns, every NaN identified with the quiet NaN `q`. -/
theorem nanBox_stable {c : Codec} {w bits q : Nat} {isNaN : Nat → Bool} (hw : 256 ^ w = 2 ^ bits)
    (hq : q < 2 ^ bits) (hqn : isNaN q = true)
    (hdec : ∀ r, c.dec w r = if isNaN r then some .nan else some (.int r))
    (hnan : c.enc w .nan = some q)
    (hint : ∀ n : Int, c.enc w (.int n) =
      if 0 ≤ n ∧ n.toNat < 2 ^ bits ∧ isNaN n.toNat = false then some n.toNat else none) : Stable c w := by
  intro r hr v hd
  rw [hdec] at hd
  split at hd <;> cases hd
  · exact ⟨q, hw ▸ hq, hnan, by rw [hdec, if_pos hqn]⟩
  · rename_i hn
    refine ⟨r, hr, ?_, by rw [hdec, if_neg hn]⟩
    rw [hint, if_pos ⟨Int.natCast_nonneg r, by simpa [hw] using hr, by simpa using hn⟩, Int.toNat_natCast]

theorem f32_stable : Stable f32Codec 4 :=
  nanBox_stable (bits := 32) (by decide) (by decide) (by decide) (fun _ => rfl) rfl (fun _ => rfl)

theorem f64_stable : Stable f64Codec 8 :=
  nanBox_stable (bits := 64) (by decide) (by decide) (by decide) (fun _ => rfl) rfl (fun _ => rfl)

theorem raw_stable (w : Nat) : Stable rawCodec w :=
  .of_enc_dec fun r hr v hd => by cases hd; simp [rawCodec, leNat_leBytes w r hr]

theorem enumStrict_stable (ms : List Nat) (w : Nat) : Stable (enumStrictCodec ms) w :=
  .of_enc_dec fun r hr v hd => by
    simp only [enumStrictCodec] at hd ⊢
    split at hd <;> cases hd
    simp_all

theorem discard_stable (fill w : Nat) (h : fill < 256 ^ w) : Stable (discardCodec fill) w := by
  intro r _ v hd
  simp only [discardCodec, Option.some.injEq] at hd
  subst hd
  exact ⟨fill, h, rfl, rfl⟩

theorem codec_stable (E : Env) (c : CodecId) (w : Nat) (hw : c.widthOk w = true)
    (hext : ∀ id, c = .ext id → Stable (E id) w) : Stable (codecOf E c) w := by
  cases c with
  | uint => exact uint_stable w
  | sint => exact sint_stable w (by simpa [CodecId.widthOk] using hw)
  | bool => exact bool_stable w (by simpa [CodecId.widthOk] using hw)
  | f32 =>
    have : w = 4 := by simpa [CodecId.widthOk] using hw
    subst this; exact f32_stable
  | f64 =>
    have : w = 8 := by simpa [CodecId.widthOk] using hw
    subst this; exact f64_stable
  | raw => exact raw_stable w
  | enumStrict ms => exact enumStrict_stable ms w
  | enumLenient ms => exact uint_stable w
  | discard fill => exact discard_stable fill w (by simpa [CodecId.widthOk] using hw)
  | ext id => exact hext id rfl

theorem parseRep_length (f : Bytes → Option (List Value × Bytes)) (n : Nat) (bs : Bytes) :
    ∀ es r, parseRep f n bs = some (es, r) → es.length = n := by
  fun_induction parseRep f n bs with
  | case1 => intro es r h; cases h; rfl
  | case2 | case3 => intro es r h; cases h
  | case4 n bs v r1 _ vs r2 h2 ih => intro es r h; cases h; exact congrArg (· + 1) (ih vs r2 h2)

theorem lookup_cons_self {k v : Nat} {cs : Ctx} : lookup k ((k, v) :: cs) = some v := if_pos rfl

theorem lookup_cons_ne {a k v : Nat} {cs : Ctx} (h : ¬ a = k) : lookup k ((a, v) :: cs) = lookup k cs := if_neg h

theorem noGreedy_endsGreedy : ∀ (l : Layout), noGreedy l = true → endsGreedy l = false
  | .nil, _ => rfl
  | .field _ _ _ rest, h | .pad _ rest, h | .count _ _ rest, h | .bytes _ _ _ rest, h =>
    noGreedy_endsGreedy rest h
  | .struct _ _ rest, h | .array _ _ _ rest, h | .lenPref _ _ _ rest, h | .switch _ _ _ rest, h =>
    noGreedy_endsGreedy rest (Bool.and_eq_true_iff.1 h).2
  | .greedy _, h => nomatch h

def ExtStable (E : Env) (uses : List (Nat × Nat)) : Prop := ∀ p ∈ uses, Stable (E p.1) p.2

theorem ExtStable.left {E : Env} {a b : List (Nat × Nat)} (h : ExtStable E (a ++ b)) : ExtStable E a :=
  fun p hp => h p (List.mem_append_left _ hp)
theorem ExtStable.right {E : Env} {a b : List (Nat × Nat)} (h : ExtStable E (a ++ b)) : ExtStable E b :=
  fun p hp => h p (List.mem_append_right _ hp)

-- Hypotheses of the shape `¬ bs.length < w`, `¬ (str && !isAscii raw) = true`, `¬ (!c.fits str n) = true` in this and
-- later lemmas are the literal `if` conditions of `parseGo`/`buildGo`, as `Option.ite_none_left_eq_some` and
-- functional induction hand them over.
theorem leNat_take_lt {bs : Bytes} {w : Nat} (h : ¬ bs.length < w) : leNat (bs.take w) < 256 ^ w := by
  have := leNat_lt (bs.take w)
  rwa [List.length_take, Nat.min_eq_left (Nat.le_of_not_lt h)] at this

theorem take_drop_append_of_length {x : Bytes} {n : Nat} (h : x.length = n) (tl : Bytes) :
    ¬ (x ++ tl).length < n ∧ (x ++ tl).take n = x ∧ (x ++ tl).drop n = tl :=
  ⟨by rw [List.length_append, h]; exact Nat.not_lt.2 (Nat.le_add_right _ _), List.take_left' h, List.drop_left' h⟩

-- The two length facts of `rt`, over variables on purpose: `omega` among the hypotheses of a constructor case is
-- ten times as dear.
theorem length_append_add_le {x out r : Bytes} {m B : Nat} (hx : x.length + m ≤ B) (hl : out.length + r.length ≤ m) :
    (x ++ out).length + r.length ≤ B := by
  rw [List.length_append]; omega

theorem length_add_length_drop_le {bs x : Bytes} {n : Nat} (hn : ¬ bs.length < n) (hx : x.length ≤ n) :
    x.length + (bs.drop n).length ≤ bs.length := by
  rw [List.length_drop]; omega

theorem Cnt.mem_of_declared {c : Cnt} {decl : List Nat} {nm : Nat}
    (hr : (match c with | .ref k => k == nm | .fixed _ => false) = true) (hd : c.declared decl = true) : nm ∈ decl := by
  cases c with
  | fixed k => cases hr
  | ref k => rw [← beq_iff_eq.1 hr]; simpa [Cnt.declared] using hd

theorem refs_of_wf (nm : Nat) : ∀ (l : Layout) (decl tags : List Nat), wfGo decl tags l = true → refs nm l = true → nm ∈ decl
  | .nil, _, _, _, hr | .greedy _, _, _, _, hr => nomatch hr
  | .field _ _ _ rest, _, _, h, hr | .struct _ _ rest, _, _, h, hr | .lenPref _ _ _ rest, _, _, h, hr
  | .switch _ _ _ rest, _, _, h, hr => refs_of_wf nm rest _ _ (Bool.and_eq_true_iff.1 h).2 hr
  | .pad _ rest, _, _, h, hr => refs_of_wf nm rest _ _ h hr
  | .count nm' _ rest, decl, _, h, hr => by
    simp only [refs] at hr
    split at hr; · cases hr
    rcases List.mem_cons.1 (refs_of_wf nm rest _ _ (Bool.and_eq_true_iff.1 h).2 hr) with rfl | h'
    · contradiction
    · exact h'
  | .array _ c _ rest, _, _, h, hr => by
    simp only [wfGo, Bool.and_eq_true] at h
    simp only [refs, Bool.or_eq_true] at hr
    rcases hr with hr | hr
    · exact Cnt.mem_of_declared hr h.1.1.1.1
    · exact refs_of_wf nm rest _ _ h.2 hr
  | .bytes _ c _ rest, _, _, h, hr => by
    simp only [wfGo, Bool.and_eq_true] at h
    simp only [refs, Bool.or_eq_true] at hr
    rcases hr with hr | hr
    · exact Cnt.mem_of_declared hr h.1.1
    · exact refs_of_wf nm rest _ _ h.2 hr

/-- Agreement of a count context with the values: every count the chain uses is what the values determine. -/
def Inv (l : Layout) (vals : List Value) (cs : Ctx) : Prop :=
  ∀ nm c, refs nm l = true → findCount nm l vals = some c → lookup nm cs = some c

/-- The counts the values determine are bounded by the counts that were read (so that a derived count field fits
its width). -/
def CountsLe (l : Layout) (vals : List Value) (cs : Ctx) : Prop :=
  ∀ nm, refs nm l = true → ∃ c' c, findCount nm l vals = some c' ∧ lookup nm cs = some c ∧ c' ≤ c

/-- Round trip of a parser/builder pair that depends on no count context (nested layouts, array elements, switch
cases; the tag context is a parameter of the pair). -/
def Closed (p : Bytes → Option (List Value × Bytes)) (b : List Value → Option Bytes) : Prop :=
  ∀ bs vals r, p bs = some (vals, r) →
    ∃ out, b vals = some out ∧ out.length + r.length ≤ bs.length ∧ ∀ post, p (out ++ post) = some (vals, post)

theorem Closed.rep {f : Bytes → Option (List Value × Bytes)} {g : List Value → Option Bytes} (hfg : Closed f g)
    (n : Nat) : Closed (parseRep f n) (buildRep g) := by
  intro bs
  fun_induction parseRep f n bs with
  | case1 => intro es r h; cases h; exact ⟨[], rfl, Nat.le_of_eq (Nat.zero_add _), fun _ => rfl⟩
  | case2 | case3 => intro es r h; cases h
  | case4 n bs v r1 h1 vs r2 h2 ih =>
    intro es r h; cases h
    obtain ⟨o1, hg1, hl1, hre1⟩ := hfg _ _ _ h1
    obtain ⟨o2, hg2, hl2, hre2⟩ := ih _ _ h2
    refine ⟨o1 ++ o2, by simp only [buildRep, hg1, hg2], length_append_add_le hl1 hl2, fun post => ?_⟩
    simp only [parseRep, List.append_assoc, hre1, hre2]

/-- Over arbitrary `decl`, `tags` and count context, so that the induction hypothesis applies below a `count`
(`nm :: decl`, a longer context) and below a `field` (`nm :: tags`). -/
def RT (E : Env) (l : Layout) : Prop :=
  ∀ decl tags, wfGo decl tags l = true → ExtStable E (extUses l) →
  ∀ cs ts bs vals r, parseGo E l cs ts bs = some (vals, r) →
    CountsLe l vals cs ∧
    ∃ out, buildGo E l ts vals = some out ∧ out.length + r.length ≤ bs.length ∧
      ∀ cs' post, Inv l vals cs' → (endsGreedy l = true → post = []) →
        parseGo E l cs' ts (out ++ post) = some (vals, post)

def RTC (E : Env) (cases : Cases) : Prop :=
  ∀ tags, wfCases tags cases = true → noGreedyCases cases = true → ExtStable E (extUsesCases cases) →
  ∀ k ts, Closed (parseCases E cases k ts) (buildCases E cases k ts)

theorem RT.top {E : Env} {l : Layout} (h : RT E l) {tags : List Nat} (hwf : wfGo [] tags l = true)
    (hext : ExtStable E (extUses l)) {ts : Ctx} {bs : Bytes} {vals : List Value} {r : Bytes}
    (hp : parseGo E l [] ts bs = some (vals, r)) :
    ∃ out, buildGo E l ts vals = some out ∧ out.length + r.length ≤ bs.length ∧
      ∀ post, (endsGreedy l = true → post = []) → parseGo E l [] ts (out ++ post) = some (vals, post) := by
  obtain ⟨_, out, hb, hl, hre⟩ := h [] tags hwf hext _ _ _ _ _ hp
  exact ⟨out, hb, hl, fun post => hre [] post fun nm _ hr _ => nomatch refs_of_wf nm l [] tags hwf hr⟩

theorem RT.closed {E : Env} {l : Layout} (h : RT E l) {tags : List Nat} (hwf : wfGo [] tags l = true)
    (hng : noGreedy l = true) (hext : ExtStable E (extUses l)) (ts : Ctx) :
    Closed (parseGo E l [] ts) (buildGo E l ts) := by
  intro bs vals r hp
  obtain ⟨out, hb, hl, hre⟩ := h.top hwf hext hp
  exact ⟨out, hb, hl, fun post => hre post fun hg => by rw [noGreedy_endsGreedy l hng] at hg; cases hg⟩

/-- What an item with count `c` and a value of length `L` (array, byte string) contributes to `refs` and
`findCount`. -/
structure Counted (l rest : Layout) (vals vs : List Value) (c : Cnt) (L : Nat) : Prop where
  refs_eq : ∀ nm, refs nm l = ((match c with | .ref k => k == nm | .fixed _ => false) || refs nm rest)
  find_eq : ∀ nm, findCount nm l vals =
    match c with
    | .ref k => if k = nm then some L else findCount nm rest vs
    | .fixed _ => findCount nm rest vs

section
variable {l rest : Layout} {vals vs : List Value} {c : Cnt} {L : Nat}

theorem Counted.bound (hc : Counted l rest vals vs c L) {cs : Ctx} {n : Nat} (hn : c.resolve cs = some n)
    (hL : L ≤ n) (ih : CountsLe rest vs cs) : CountsLe l vals cs := by
  intro nm hr
  rw [hc.refs_eq] at hr
  rw [hc.find_eq]
  cases c with
  | fixed k => exact ih nm hr
  | ref k =>
    by_cases e : k = nm
    · exact ⟨L, n, if_pos e, e ▸ hn, hL⟩
    · simp only [if_neg e]
      exact ih nm (by simpa [e] using hr)

theorem Counted.resolve (hc : Counted l rest vals vs c L) {cs : Ctx} (hinv : Inv l vals cs) :
    c.resolve cs = some (c.outLen L) := by
  cases c with
  | fixed k => rfl
  | ref k => exact hinv k L (by simp [hc.refs_eq]) (by simp [hc.find_eq])

theorem Counted.inv (hc : Counted l rest vals vs c L) {cs : Ctx} (hinv : Inv l vals cs)
    (hfree : c.freeIn rest = true) : Inv rest vs cs := by
  intro nm x hr hf
  refine hinv nm x (by rw [hc.refs_eq, hr, Bool.or_true]) ?_
  rw [hc.find_eq]
  cases c with
  | fixed k => exact hf
  | ref k =>
    have : ¬ k = nm := fun e => by simp [Cnt.freeIn, e, hr] at hfree
    simp only [if_neg this]; exact hf

theorem Cnt.outLen_spec {cs : Ctx} {n : Nat} (hn : c.resolve cs = some n) {str : Bool} (hL : L ≤ n)
    (hs : str = false → L = n) :
    c.fits str L = true ∧ L ≤ c.outLen L ∧ c.outLen L ≤ n ∧ (str = false → c.outLen L = L) := by
  cases c with
  | ref k => simp [Cnt.fits, Cnt.outLen, hL]
  | fixed k =>
    cases hn
    cases str <;> simp_all [Cnt.fits, Cnt.outLen]

end

/-- The value of a byte-string item read from `raw`: it is accepted by `buildGo`, and it is read back from
itself followed by `P` NUL bytes (text only: raw bytes are not padded). -/
theorem bytesValue_spec (str : Bool) (raw : Bytes) (hasc : ¬ (str && !isAscii raw) = true) (b : Bytes)
    (hb : (if str = true then stripZ raw else raw) = b) :
    b.length ≤ raw.length ∧ (str = false → b = raw) ∧ ¬ (str && !(isAscii b && stripZ b == b)) = true ∧
    ∀ P, (str = false → P = 0) →
      ¬ (str && !isAscii (b ++ zeros P)) = true ∧ (if str = true then stripZ (b ++ zeros P) else b ++ zeros P) = b := by
  subst hb
  cases str with
  | false => exact ⟨Nat.le_refl _, fun _ => rfl, by simp, fun P hP => by simp [hP rfl, zeros]⟩
  | true =>
    have ha : isAscii raw = true := by simpa using hasc
    refine ⟨(stripZ_sublist raw).length_le, nofun, by simp [isAscii_stripZ raw ha, stripZ_idem], fun P _ => ?_⟩
    simp [(text_padded raw P).1, (text_padded raw P).2 ha]

theorem rt (E : Env) (l : Layout) : RT E l := by
  induction l using Layout.rec (motive_2 := RTC E) with
  | nil =>
    intro decl tags _ _ cs ts bs vals r h
    cases h
    exact ⟨nofun, [], rfl, Nat.le_of_eq (Nat.zero_add _), fun _ _ _ _ => rfl⟩
  | field nm w c rest ih =>
    intro decl tags hwf hext cs ts bs vals r h
    simp only [wfGo, Bool.and_eq_true] at hwf
    obtain ⟨hlen, h⟩ := Option.ite_none_left_eq_some.1 h
    split at h; · cases h
    rename_i v hdec
    split at h; · cases h
    rename_i vs r1 h1
    cases h
    obtain ⟨r', hr', henc, hdec'⟩ :=
      codec_stable E c w hwf.1 (fun id hc => hext (id, w) (by simp [extUses, hc])) _ (leNat_take_lt hlen) v hdec
    obtain ⟨hcnt, out, hb, hl, hre⟩ := ih decl (nm :: tags) hwf.2 hext.right cs _ _ _ _ h1
    refine ⟨hcnt, leBytes w r' ++ out, ?_, ?_, fun cs' post hinv hg => ?_⟩
    · simp only [buildGo, henc, hb, if_neg (Nat.not_le.2 hr')]
    · exact length_append_add_le (length_add_length_drop_le hlen (Nat.le_of_eq (leBytes_length w r'))) hl
    · obtain ⟨h1, h2, h3⟩ := take_drop_append_of_length (leBytes_length w r') (out ++ post)
      rw [parseGo, List.append_assoc, if_neg h1, h2, h3, leNat_leBytes w r' hr', hdec']
      simp only [hre cs' post hinv hg]
  | pad n rest ih =>
    intro decl tags hwf hext cs ts bs vals r h
    obtain ⟨hlen, h⟩ := Option.ite_none_left_eq_some.1 h
    obtain ⟨hcnt, out, hb, hl, hre⟩ := ih decl tags hwf hext cs _ _ _ _ h
    refine ⟨hcnt, zeros n ++ out, by simp only [buildGo, hb], ?_, fun cs' post hinv hg => ?_⟩
    · exact length_append_add_le (length_add_length_drop_le hlen (Nat.le_of_eq (zeros_length n))) hl
    · obtain ⟨h1, _, h3⟩ := take_drop_append_of_length (zeros_length n) (out ++ post)
      rw [parseGo, List.append_assoc, if_neg h1, h3, hre cs' post hinv hg]
  | count nm w rest ih =>
    intro decl tags hwf hext cs ts bs vals r h
    simp only [wfGo, Bool.and_eq_true] at hwf
    obtain ⟨⟨_, hused⟩, hwfR⟩ := hwf
    obtain ⟨hlen, h⟩ := Option.ite_none_left_eq_some.1 h
    obtain ⟨hcnt, out, hb, hl, hre⟩ := ih (nm :: decl) tags hwfR hext _ _ _ _ _ h
    -- the rebuilt count fits its width: it is bounded (`CountsLe`) by the count that was read and pushed
    obtain ⟨c', c, hfc, hlk, hle⟩ := hcnt nm hused
    have hc' : c' < 256 ^ w := by
      cases hlk.symm.trans lookup_cons_self
      exact Nat.lt_of_le_of_lt hle (leNat_take_lt hlen)
    refine ⟨fun k hk => ?_, leBytes w c' ++ out, ?_, ?_, fun cs' post hinv hg => ?_⟩
    · simp only [refs] at hk
      split at hk; · cases hk
      rename_i e
      simpa only [findCount, if_neg e, lookup_cons_ne e] using hcnt k hk
    · simp only [buildGo, hfc, hb, if_neg (Nat.not_le.2 hc')]
    · exact length_append_add_le (length_add_length_drop_le hlen (Nat.le_of_eq (leBytes_length w c'))) hl
    · obtain ⟨h1, h2, h3⟩ := take_drop_append_of_length (leBytes_length w c') (out ++ post)
      rw [parseGo, List.append_assoc, if_neg h1, h2, h3, leNat_leBytes w c' hc']
      refine hre _ post (fun k x hk hf => ?_) hg
      by_cases e : nm = k
      · subst e
        rw [← hf, hfc]; exact lookup_cons_self
      · rw [lookup_cons_ne e]
        exact hinv k x (by simpa only [refs, if_neg e] using hk) (by simpa only [findCount, if_neg e] using hf)
  | struct nm inner rest ihI ih =>
    intro decl tags hwf hext cs ts bs vals r h
    simp only [wfGo, Bool.and_eq_true] at hwf
    simp only [parseGo] at h
    split at h; · cases h
    rename_i ivs r0 h0
    split at h; · cases h
    rename_i vs r1 h1
    cases h
    obtain ⟨⟨hwfI, hngI⟩, hwfR⟩ := hwf
    obtain ⟨oi, hbi, hli, hrei⟩ := ihI.closed hwfI hngI hext.left [] _ _ _ h0
    obtain ⟨hcnt, out, hb, hl, hre⟩ := ih decl tags hwfR hext.right _ _ _ _ _ h1
    refine ⟨hcnt, oi ++ out, by simp only [buildGo, hbi, hb], length_append_add_le hli hl, fun cs' post hinv hg => ?_⟩
    simp only [parseGo, List.append_assoc, hrei, hre cs' post hinv hg]
  | array nm c elem rest ihE ih =>
    intro decl tags hwf hext cs ts bs vals r h
    simp only [wfGo, Bool.and_eq_true] at hwf
    obtain ⟨⟨⟨⟨_, hfree⟩, hwfE⟩, hngE⟩, hwfR⟩ := hwf
    simp only [parseGo] at h
    split at h; · cases h
    rename_i n hn
    split at h; · cases h
    rename_i es r0 hes
    split at h; · cases h
    rename_i vs r1 h1
    cases h
    have hlen := parseRep_length _ _ _ _ _ hes
    obtain ⟨oa, hba, hla, hrea⟩ := (ihE.closed hwfE hngE hext.left []).rep n _ _ _ hes
    obtain ⟨hcnt, out, hb, hl, hre⟩ := ih decl tags hwfR hext.right _ _ _ _ _ h1
    have hc : Counted (.array nm c elem rest) rest (.list es :: vs) vs c es.length :=
      ⟨fun _ => rfl, fun _ => by cases c <;> rfl⟩
    obtain ⟨hok, hout⟩ : c.lenOk es.length = true ∧ c.outLen es.length = n := by
      cases c with
      | fixed k => cases hn; exact ⟨beq_iff_eq.2 hlen, rfl⟩
      | ref k => exact ⟨rfl, hlen⟩
    refine ⟨hc.bound hn (Nat.le_of_eq hlen) hcnt, oa ++ out, ?_, length_append_add_le hla hl, fun cs' post hinv hg => ?_⟩
    · simp only [buildGo, hok, hba, hb, Bool.not_true, Bool.false_eq_true, if_false]
    · simp only [parseGo, hc.resolve hinv, hout, List.append_assoc, hrea, hre cs' post (hc.inv hinv hfree) hg]
  | bytes nm c str rest ih =>
    intro decl tags hwf hext cs ts bs vals r h
    simp only [wfGo, Bool.and_eq_true] at hwf
    simp only [parseGo] at h
    split at h; · cases h
    rename_i n hn
    obtain ⟨hlen, h⟩ := Option.ite_none_left_eq_some.1 h
    obtain ⟨hasc, h⟩ := Option.ite_none_left_eq_some.1 h
    split at h; · cases h
    rename_i vs r1 h1
    cases h
    obtain ⟨⟨_, hfree⟩, hwfR⟩ := hwf
    obtain ⟨hcnt, out, hb, hl, hre⟩ := ih decl tags hwfR hext _ _ _ _ _ h1
    generalize hb' : (if str = true then stripZ (bs.take n) else bs.take n) = b
    have htake : (bs.take n).length = n := List.length_take_of_le (Nat.le_of_not_lt hlen)
    obtain ⟨hbn, hraw, hok, hpad⟩ := bytesValue_spec str _ hasc b hb'
    rw [htake] at hbn
    obtain ⟨hfit, hN, hNn, hN0⟩ := Cnt.outLen_spec (c := c) hn (str := str) hbn (fun hs => by rw [hraw hs, htake])
    obtain ⟨hasc', hval⟩ := hpad (c.outLen b.length - b.length) (fun hs => by rw [hN0 hs, Nat.sub_self])
    have hc : Counted (.bytes nm c str rest) rest (.bytes b :: vs) vs c b.length :=
      ⟨fun _ => rfl, fun _ => by cases c <;> rfl⟩
    have hT : (b ++ zeros (c.outLen b.length - b.length)).length = c.outLen b.length := by
      rw [List.length_append, zeros_length, Nat.add_sub_cancel' hN]
    refine ⟨hc.bound hn hbn hcnt, b ++ zeros (c.outLen b.length - b.length) ++ out, ?_, ?_,
      fun cs' post hinv hg => ?_⟩
    · simp only [buildGo, hb, if_neg hok, hfit, Bool.not_true, Bool.false_eq_true, if_false]
    · exact length_append_add_le (length_add_length_drop_le hlen (Nat.le_trans (Nat.le_of_eq hT) hNn)) hl
    · obtain ⟨h1, h2, h3⟩ := take_drop_append_of_length hT (out ++ post)
      rw [parseGo, hc.resolve hinv, List.append_assoc]
      simp only [if_neg h1, h2, h3, if_neg hasc', hval, hre cs' post (hc.inv hinv hfree) hg]
  | greedy nm =>
    intro decl tags _ _ cs ts bs vals r h
    cases h
    refine ⟨nofun, bs, rfl, by simp, fun cs' post _ hg => ?_⟩
    rw [hg rfl, List.append_nil]; rfl
  | lenPref nm w inner rest ihI ih =>
    intro decl tags hwf hext cs ts bs vals r h
    simp only [wfGo, Bool.and_eq_true] at hwf
    obtain ⟨⟨⟨_, hwfI⟩, hngI⟩, hwfR⟩ := hwf
    obtain ⟨hlen, h⟩ := Option.ite_none_left_eq_some.1 h
    obtain ⟨hlen2, h⟩ := Option.ite_none_left_eq_some.1 h
    split at h; · cases h
    rename_i ivs r0 h0
    split at h; · cases h
    rename_i vs r1 h1
    cases h
    have hraw := leNat_take_lt hlen
    generalize leNat (bs.take w) = L at *
    obtain ⟨oi, hbi, hli, hrei⟩ := ihI.closed hwfI hngI hext.left ts _ _ _ h0
    obtain ⟨hcnt, out, hb, hl, hre⟩ := ih decl tags hwfR hext.right _ _ _ _ _ h1
    rw [List.length_take_of_le (Nat.le_of_not_lt hlen2)] at hli
    have hoiL : oi.length ≤ L := Nat.le_trans (Nat.le_add_right _ _) hli
    have hoi : oi.length < 256 ^ w := Nat.lt_of_le_of_lt hoiL hraw
    refine ⟨hcnt, leBytes w oi.length ++ oi ++ out, ?_, ?_, fun cs' post hinv hg => ?_⟩
    · simp only [buildGo, hbi, hb, if_neg (Nat.not_le.2 hoi)]
    · rw [List.append_assoc]
      exact length_append_add_le (length_add_length_drop_le hlen (Nat.le_of_eq (leBytes_length w _)))
        (length_append_add_le (length_add_length_drop_le hlen2 hoiL) hl)
    · -- the rebuilt region is exactly `oi`, so the inner re-parse is needed with nothing after it; the first parse
      -- may have left a tail of its region unread, which is why the lengths are only `≤`
      have := hrei []
      rw [List.append_nil] at this
      obtain ⟨h1, h2, h3⟩ := take_drop_append_of_length (leBytes_length w oi.length) (oi ++ (out ++ post))
      obtain ⟨k1, k2, k3⟩ := take_drop_append_of_length (rfl : oi.length = oi.length) (out ++ post)
      rw [parseGo, List.append_assoc, List.append_assoc, if_neg h1, h2, h3, leNat_leBytes w _ hoi, if_neg k1, k2, k3, this]
      simp only [hre cs' post hinv hg]
  | switch nm tag cases rest ihC ih =>
    intro decl tags hwf hext cs ts bs vals r h
    simp only [wfGo, Bool.and_eq_true] at hwf
    simp only [parseGo] at h
    split at h; · cases h
    rename_i t ht
    split at h; · cases h
    rename_i ivs r0 h0
    split at h; · cases h
    rename_i vs r1 h1
    cases h
    obtain ⟨⟨⟨_, hwfC⟩, hngC⟩, hwfR⟩ := hwf
    obtain ⟨oc, hbc, hlc, hrec⟩ := ihC tags hwfC hngC hext.left _ _ _ _ _ h0
    obtain ⟨hcnt, out, hb, hl, hre⟩ := ih decl tags hwfR hext.right _ _ _ _ _ h1
    refine ⟨hcnt, oc ++ out, by simp only [buildGo, ht, hbc, hb], length_append_add_le hlc hl, fun cs' post hinv hg => ?_⟩
    simp only [parseGo, ht, List.append_assoc, hrec, hre cs' post hinv hg]
  | fail => exact fun _ _ _ _ _ _ _ _ _ h => nomatch h
  | dflt body ih => exact fun tags hwf hng hext _ ts => ih.closed hwf hng hext ts
  | case t body more ih ihM =>
    intro tags hwf hng hext k ts
    simp only [wfCases, noGreedyCases, Bool.and_eq_true] at hwf hng
    by_cases e : t = k
    · simpa only [parseCases, buildCases, if_pos e] using ih.closed hwf.1 hng.1 hext.left ts
    · simpa only [parseCases, buildCases, if_neg e] using ihM tags hwf.2 hng.2 hext.right k ts

theorem Cnt.le_outLen {c : Cnt} {str : Bool} {n : Nat} (h : ¬ (!c.fits str n) = true) : n ≤ c.outLen n := by
  cases c <;> cases str <;> simp_all [Cnt.fits, Cnt.outLen]

theorem buildRep_length {g : List Value → Option Bytes} {s : List Value → Nat}
    (hgs : ∀ ivs out, g ivs = some out → out.length = s ivs) (es : List Value) :
    ∀ out, buildRep g es = some out → out.length = sizeRep s es := by
  fun_induction buildRep g es
  all_goals intro out h; cases h
  · rfl
  · rename_i ha _ hb ih
    simp only [List.length_append, sizeRep, hgs _ _ ha, ih _ hb]

theorem buildGo_length (E : Env) (l : Layout) (ts : Ctx) (vals : List Value) :
    ∀ out, buildGo E l ts vals = some out → out.length = sizeGo l ts vals := by
  apply buildGo.induct_unfolding E
    (motive_1 := fun l ts vals res => ∀ out, res = some out → out.length = sizeGo l ts vals)
    (motive_2 := fun c k ts vals res => ∀ out, res = some out → out.length = sizeCases c k ts vals)
  all_goals intros
  all_goals rename_i h
  -- `h` is the equation for the output: absurd in a failing branch, it names the output in a succeeding one
  -- (in the three tail calls of `buildCases` it is what the induction hypothesis asks for)
  all_goals try cases h
  all_goals simp only [sizeGo, sizeCases, List.length_append, leBytes_length, zeros_length, List.length_nil,
    if_true, if_false, *]
  -- two cases are left: `array` (the elements, by `buildRep_length`) and `bytes` (a value that fits is not longer
  -- than what the item occupies, so the padding makes up the difference)
  · show _ + _ = sizeRep _ _ + _
    rename_i hrep _ _ ihE _
    rw [buildRep_length ihE _ _ hrep]
  · show _ + (Cnt.outLen _ _ - _) + _ = _
    rename_i hfit _ _ _
    have := Cnt.le_outLen hfit
    omega

theorem parse_roundtrip (E : Env) (l : Layout) (hwf : WF l) (hE : ExtStable E (extUses l))
    {bs : Bytes} {v : Value} {n : Nat} (h : parse E l bs = some (v, n)) :
    ∃ out, build E l v = some out ∧ out.length = sizeOf l v ∧ out.length ≤ n ∧
      ∀ post, (endsGreedy l = true → post = []) → parse E l (out ++ post) = some (v, out.length) := by
  unfold parse at h
  split at h; · cases h
  rename_i vals r hp
  cases h
  obtain ⟨out, hb, hl, hre⟩ := (rt E l).top hwf hE hp
  refine ⟨out, hb, buildGo_length E l [] vals out hb, by omega, fun post hg => ?_⟩
  simp [parse, hre post hg]

end Lay
end FeVerif
