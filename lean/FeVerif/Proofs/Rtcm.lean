/-
Refinement of the literal RTCM framer model (Model/RtcmFramer.lean) to the framing scan
(`Cfg.run (cfgRtcm capacity)`, Spec/Rtcm.lean), its safety invariant and its counters.

Between calls the framer holds in `buffer_[0, next_byte_index_)` what the scan has left unjudged, minus bytes in
front of a preamble (`Coh`, `nscan`).  `OnByte` has four outcomes (`ByteRes`), each with its result as an equation (up to the control
fields and counters a rejection or a wait leaves open);
`Resync` and `OnData` react to them the way the scan proceeds on the window (`Advances`, `Delivers`).  What holds
of every state, reachable or not, is proved apart (`Mono`, chunking).
-/
import FeVerif.Proofs.Frame
import FeVerif.Spec.Rtcm
import FeVerif.Model.RtcmFramer

namespace FeVerif.RtcmFramer

theorem rtcmPayloadLen_take (bs : Bytes) (n : Nat) (h : 3 ≤ n) : rtcmPayloadLen (bs.take n) = rtcmPayloadLen bs := by
  unfold rtcmPayloadLen
  rw [byteAt_take (by omega), byteAt_take (by omega)]

theorem rtcmPayloadLen_le (bs : Bytes) : rtcmPayloadLen bs ≤ 1023 := by
  unfold rtcmPayloadLen
  exact Nat.and_le_right

theorem be24At_take (bs : Bytes) (n i : Nat) (h : i + 2 < n) : be24At (bs.take n) i = be24At bs i := by
  unfold be24At
  rw [byteAt_take (by omega), byteAt_take (by omega), byteAt_take h]

theorem crc24_table : Generated.rtcmCrc24qLiteral = crc24Table := by decide +kernel

theorem crc24Src_eq (d : Bytes) : crc24Src d = crc24q d := by
  unfold crc24Src crc24q; rw [crc24_table]

theorem rtcm_msgLen (cap : Nat) (Q : Bytes) : (cfgRtcm cap).msgLen Q = rtcmPayloadLen Q + 6 := by
  show 3 + (rtcmPayloadLen (Q.take 3) + 3) = _
  rw [rtcmPayloadLen_take _ _ (Nat.le_refl 3)]; omega

theorem rtcm_headerOk (cap : Nat) (Q : Bytes) :
    (cfgRtcm cap).headerOk (Q.take 3) = true ↔ byteAt Q 0 = 0xD3 ∧ rtcmPayloadLen Q + 6 ≤ cap := by
  show (byteAt (Q.take 3) 0 == 0xD3 && decide (rtcmPayloadLen (Q.take 3) + 6 ≤ cap) &&
    decide (rtcmPayloadLen (Q.take 3) + 6 ≤ 1029)) = true ↔ _
  rw [rtcmPayloadLen_take _ _ (Nat.le_refl 3), byteAt_take (by decide)]
  simp only [Bool.and_eq_true, beq_iff_eq, decide_eq_true_eq]
  exact ⟨fun h => h.1, fun h => ⟨h, Nat.add_le_add_right (rtcmPayloadLen_le Q) 6⟩⟩

theorem rtcm_bodyOk (cap : Nat) {Q : Bytes} (h : rtcmPayloadLen Q + 6 ≤ Q.length) :
    (cfgRtcm cap).bodyOk (Q.take (rtcmPayloadLen Q + 6)) = true ↔
      crc24q (Q.take (rtcmPayloadLen Q + 3)) = be24At Q (rtcmPayloadLen Q + 3) := by
  show (crc24q ((Q.take (rtcmPayloadLen Q + 6)).take ((Q.take (rtcmPayloadLen Q + 6)).length - 3)) ==
    be24At (Q.take (rtcmPayloadLen Q + 6)) ((Q.take (rtcmPayloadLen Q + 6)).length - 3)) = true ↔ _
  rw [List.length_take_of_le h, show rtcmPayloadLen Q + 6 - 3 = rtcmPayloadLen Q + 3 from rfl, List.take_take,
    Nat.min_eq_left (Nat.add_le_add_left (by decide) _), be24At_take _ _ _ (by omega), beq_iff_eq]

/-- The verdict of the scan in the terms of the format (`≤ 1029` holds of every 10-bit length). -/
theorem rtcm_step (cap : Nat) (Q : Bytes) :
    (cfgRtcm cap).step Q =
      if Q.length < 3 then .stop
      else if byteAt Q 0 = 0xD3 ∧ rtcmPayloadLen Q + 6 ≤ cap then
        if Q.length < rtcmPayloadLen Q + 6 then .stop
        else if crc24q (Q.take (rtcmPayloadLen Q + 3)) = be24At Q (rtcmPayloadLen Q + 3) then
          .emit (rtcmPayloadLen Q + 6)
        else .drop
      else .drop := by
  unfold Cfg.step
  rw [rtcm_msgLen]
  show (if Q.length < 3 then _ else if (cfgRtcm cap).headerOk (Q.take 3) = false then _ else _) = _
  by_cases h3 : Q.length < 3
  · rw [if_pos h3, if_pos h3]
  rw [if_neg h3, if_neg h3]
  by_cases hh : byteAt Q 0 = 0xD3 ∧ rtcmPayloadLen Q + 6 ≤ cap
  · rw [if_pos hh, if_neg (by rw [(rtcm_headerOk cap Q).2 hh]; decide)]
    by_cases hlen : Q.length < rtcmPayloadLen Q + 6
    · rw [if_pos hlen, if_pos hlen]
    have hbody := rtcm_bodyOk cap (Nat.le_of_not_lt hlen)
    rw [if_neg hlen, if_neg hlen]
    by_cases hc : crc24q (Q.take (rtcmPayloadLen Q + 3)) = be24At Q (rtcmPayloadLen Q + 3)
    · rw [if_pos hc, if_pos (hbody.2 hc)]
    · rw [if_neg hc, if_neg (mt hbody.1 hc)]
  · rw [if_neg hh, if_pos (Bool.eq_false_iff.2 fun h => hh ((rtcm_headerOk cap Q).1 h))]

theorem rtcm_step_short (cap : Nat) {Q : Bytes} (h : Q.length < 3) : (cfgRtcm cap).step Q = .stop := by
  rw [rtcm_step, if_pos h]

theorem rtcm_step_badHeader (cap : Nat) {Q : Bytes} (h : 3 ≤ Q.length)
    (hb : ¬ (byteAt Q 0 = 0xD3 ∧ rtcmPayloadLen Q + 6 ≤ cap)) : (cfgRtcm cap).step Q = .drop := by
  rw [rtcm_step, if_neg (by omega), if_neg hb]

theorem rtcm_step_wait (cap : Nat) {Q : Bytes} (h : 3 ≤ Q.length)
    (hb : byteAt Q 0 = 0xD3 ∧ rtcmPayloadLen Q + 6 ≤ cap) (hl : Q.length < rtcmPayloadLen Q + 6) :
    (cfgRtcm cap).step Q = .stop := by
  rw [rtcm_step, if_neg (by omega), if_pos hb, if_pos hl]

theorem rtcm_step_full (cap : Nat) {Q : Bytes} (hb : byteAt Q 0 = 0xD3 ∧ rtcmPayloadLen Q + 6 ≤ cap)
    (hl : Q.length = rtcmPayloadLen Q + 6) :
    (cfgRtcm cap).step Q =
      if crc24q (Q.take (Q.length - 3)) = be24At Q (Q.length - 3) then .emit Q.length else .drop := by
  rw [rtcm_step, if_neg (by omega), if_pos hb, if_neg (by omega), hl, Nat.add_sub_assoc (by decide)]

/-- What the framer keeps of unjudged bytes: it never stores bytes in front of a preamble. -/
def rtcmNorm (bs : Bytes) : Bytes := bs.dropWhile (fun b => b != 0xD3)

/-- The scan, with the unjudged rest reduced to what the framer stores. -/
def nscan (cap : Nat) (buf : Bytes) : List Bytes × Bytes :=
  (((cfgRtcm cap).scan buf).1, rtcmNorm ((cfgRtcm cap).scan buf).2)

theorem rtcmNorm_nil : rtcmNorm [] = [] := rfl

theorem rtcmNorm_cons_ne {b : Byte} (t : Bytes) (h : b ≠ 0xD3) : rtcmNorm (b :: t) = rtcmNorm t :=
  List.dropWhile_cons_of_pos (by simpa using h)

theorem rtcmNorm_cons_eq (t : Bytes) : rtcmNorm (0xD3 :: t) = 0xD3 :: t :=
  List.dropWhile_cons_of_neg (by simp)

theorem eq_preamble_of_toNat {b : Byte} (h : b.toNat = 0xD3) : b = 0xD3 := by
  apply UInt8.toNat_inj.1; simpa using h

theorem rtcmNorm_of_pre {Q : Bytes} (h : byteAt Q 0 = 0xD3) : rtcmNorm Q = Q := by
  cases Q with
  | nil => simp [byteAt] at h
  | cons b t =>
    rw [byteAt_cons_zero] at h
    rw [eq_preamble_of_toNat h]; exact rtcmNorm_cons_eq t

theorem nscan_skip (cap : Nat) {b : Byte} (t : Bytes) (h : b ≠ 0xD3) : nscan cap (b :: t) = nscan cap t := by
  unfold nscan
  have hb : ¬ (byteAt (b :: t) 0 = 0xD3 ∧ rtcmPayloadLen (b :: t) + 6 ≤ cap) := by
    intro hh; rw [byteAt_cons_zero] at hh; exact h (eq_preamble_of_toNat hh.1)
  by_cases hl : 3 ≤ (b :: t).length
  · rw [Cfg.scan_drop (rtcm_step_badHeader cap hl hb)]; simp
  · have h1 : (cfgRtcm cap).step (b :: t) = .stop := rtcm_step_short cap (by omega)
    have h2 : (cfgRtcm cap).step t = .stop := rtcm_step_short cap (by simp at hl; omega)
    rw [Cfg.scan_stop h1, Cfg.scan_stop h2, rtcmNorm_cons_ne t h]

theorem nscan_norm_append (cap : Nat) (r more : Bytes) : nscan cap (rtcmNorm r ++ more) = nscan cap (r ++ more) := by
  induction r with
  | nil => rfl
  | cons b t ih =>
    by_cases h : b = 0xD3
    · subst h; rw [rtcmNorm_cons_eq]
    · rw [rtcmNorm_cons_ne t h, ih, List.cons_append, nscan_skip cap _ h]

theorem nscan_append (cap : Nat) (buf more : Bytes) :
    nscan cap (buf ++ more) =
      ((nscan cap buf).1 ++ (nscan cap ((nscan cap buf).2 ++ more)).1, (nscan cap ((nscan cap buf).2 ++ more)).2) := by
  show nscan cap (buf ++ more) =
    (((cfgRtcm cap).scan buf).1 ++ (nscan cap (rtcmNorm ((cfgRtcm cap).scan buf).2 ++ more)).1,
      (nscan cap (rtcmNorm ((cfgRtcm cap).scan buf).2 ++ more)).2)
  rw [nscan_norm_append]
  unfold nscan
  rw [Cfg.scan_append]

theorem nscan_stop (cap : Nat) {Q : Bytes} (h : (cfgRtcm cap).step Q = .stop) : nscan cap Q = ([], rtcmNorm Q) := by
  unfold nscan; rw [Cfg.scan_stop h]

theorem nscan_drop (cap : Nat) {Q : Bytes} (h : (cfgRtcm cap).step Q = .drop) : nscan cap Q = nscan cap (Q.drop 1) := by
  unfold nscan; rw [Cfg.scan_drop h]

theorem nscan_emit (cap : Nat) {Q : Bytes} {n : Nat} (h : (cfgRtcm cap).step Q = .emit n) :
    nscan cap Q = (Q.take n :: (nscan cap (Q.drop n)).1, (nscan cap (Q.drop n)).2) := by
  unfold nscan; rw [Cfg.scan_emit h]

theorem nscan_nil (cap : Nat) : nscan cap [] = ([], []) := by
  rw [nscan_stop cap (rtcm_step_short cap (by simp))]; rfl

theorem nscan_of_ne {cap : Nat} {W : Bytes} (h0 : byteAt W 0 ≠ 0xD3) : nscan cap W = nscan cap (W.drop 1) := by
  cases W with
  | nil => rfl
  | cons b t => exact nscan_skip cap t fun h => h0 (by rw [h]; rfl)

theorem rd_eq {s : Rtcm} {Q : Bytes} {n : Nat} (hp : s.buf.take n = Q) {i : Nat} (h : i < n) :
    (s.rd i).toNat = byteAt Q i :=
  byteAt_of_take hp h

theorem be16_eq {s : Rtcm} {Q : Bytes} {n : Nat} (hp : s.buf.take n = Q) {i : Nat} (h : i + 1 < n) :
    s.be16 i = (byteAt Q i <<< 8) ||| byteAt Q (i + 1) := by
  unfold Rtcm.be16; rw [rd_eq hp (by omega), rd_eq hp h]

theorem be24_eq {s : Rtcm} {Q : Bytes} {n : Nat} (hp : s.buf.take n = Q) {i : Nat} (h : i + 2 < n) :
    s.be24 i = be24At Q i := by
  unfold Rtcm.be24 be24At; rw [rd_eq hp (by omega), rd_eq hp (by omega), rd_eq hp h]

theorem payloadSize_eq {s : Rtcm} {Q : Bytes} {n : Nat} (hp : s.buf.take n = Q) (h : 3 ≤ n) :
    s.payloadSize = rtcmPayloadLen Q := by
  unfold Rtcm.payloadSize rtcmPayloadLen; rw [be16_eq hp (by omega)]

theorem touch_lt {s : Rtcm} {i : Nat} (h : i < s.cap) : s.touch i = s := by
  unfold Rtcm.touch; rw [if_pos h]

theorem touchRange_le {s : Rtcm} {n : Nat} (h : n ≤ s.cap) : s.touchRange n = s := by
  unfold Rtcm.touchRange; rw [if_pos h]

/-- What framing never changes, and what it needs: a buffer of `cap ≥ 3` bytes, no access outside it so far. -/
structure Base (cap : Nat) (s : Rtcm) : Prop where
  hasBuf : s.hasBuf = true
  nofault : s.fault = false
  capEq : s.cap = cap
  len : s.buf.length = cap
  cap3 : 3 ≤ cap
  /- `decoded_msg_count_` is a `uint32`: what a stretch of execution owes is stated modulo 2^32 (`Delivers`), and a
  stretch that dispatches nothing leaves the counter at `(d + 0) % U32` only because it was below 2^32. -/
  dec : s.decoded < U32

/-- `Base` looks at these fields only.  (For a state written as record updates of `s` the equations hold by `rfl`.) -/
theorem Base.congr {cap : Nat} {s s' : Rtcm} (h : Base cap s) (e1 : s'.hasBuf = s.hasBuf) (e2 : s'.fault = s.fault)
    (e3 : s'.cap = s.cap) (e4 : s'.buf.length = s.buf.length) (e5 : s'.decoded < U32) : Base cap s' :=
  ⟨e1.trans h.hasBuf, e2.trans h.nofault, e3.trans h.capEq, e4.trans h.len, h.cap3, e5⟩

/-- The framing state `st`, with `current_message_size_ = cur`, agrees with the stored candidate `P`. -/
def StCoh (cap : Nat) : RState → Nat → Bytes → Prop
  | .sync, _, P => P = []
  | .header, _, P => (P.length = 1 ∨ P.length = 2) ∧ byteAt P 0 = 0xD3
  | .data, cur, P => 3 ≤ P.length ∧ P.length < cur ∧ cur ≤ cap ∧ byteAt P 0 = 0xD3 ∧ cur = rtcmPayloadLen P + 6

theorem StCoh.ne_sync {cap : Nat} {st : RState} {cu : Nat} {Q : Bytes} (h : StCoh cap st cu Q) (hq : 1 ≤ Q.length) :
    st ≠ .sync := by
  rintro rfl
  rw [show Q = [] from h] at hq
  exact absurd hq (by decide)

/-- Between calls: the framer stores exactly the candidate `P` in `buffer_[0, next_byte_index_)`. -/
structure Coh (cap : Nat) (s : Rtcm) (P : Bytes) : Prop where
  base : Base cap s
  next : s.next = P.length
  pref : s.buf.take s.next = P
  st : StCoh cap s.state s.cur P

def cbOf (f : Bytes) : RtcmCb := ⟨rtcmMsgNum f, f⟩

namespace Coh
variable {cap : Nat} {s : Rtcm} {P : Bytes}

theorem lt_cap (h : Coh cap s P) : P.length < cap := by
  have hst := h.st
  have := h.base.cap3
  cases hs : s.state <;> rw [hs] at hst
  · rw [hst]; exact Nat.lt_of_lt_of_le (by decide) this
  · have := hst.1; omega
  · have := hst.2.1; have := hst.2.2.1; omega

/-- A stored candidate cannot be judged yet, and starts with the preamble. -/
theorem nscan_eq (h : Coh cap s P) : nscan cap P = ([], P) := by
  have hst := h.st
  cases hs : s.state <;> rw [hs] at hst
  · rw [show P = [] from hst]; exact nscan_nil cap
  · rw [nscan_stop cap (rtcm_step_short cap (by have := hst.1; omega)), rtcmNorm_of_pre hst.2]
  · obtain ⟨h1, h2, h3, h4, h5⟩ := hst
    rw [nscan_stop cap (rtcm_step_wait cap h1 ⟨h4, by omega⟩ (by omega)), rtcmNorm_of_pre h4]

end Coh

theorem Base.coh_nil {cap : Nat} {s : Rtcm} (h : Base cap s) (hs : s.state = .sync) (hn : s.next = 0) : Coh cap s [] :=
  ⟨h, hn, by rw [hn]; rfl, by rw [hs]; rfl⟩

/-- The four things `OnByte` can do with the candidate `Q = buffer_[0, next_byte_index_)`. -/
inductive ByteRes (cap : Nat) (s : Rtcm) (Q : Bytes) (r : ROut Int) : Prop
  /-- searching, and the byte is not the preamble: it is removed again -/
  | skip (hs : s.state = .sync) (hl : Q.length = 1) (h0 : byteAt Q 0 ≠ 0xD3)
      (eq : r = ⟨{ s with next := s.next - 1 }, 0, []⟩)
  /-- the candidate cannot be judged yet -/
  | wait (st : RState) (cu : Nat) (hst : StCoh cap st cu Q) (eq : r = ⟨{ s with state := st, cur := cu }, 0, []⟩)
  /-- the candidate is rejected (too long for the buffer, or CRC mismatch) -/
  | reject (cu er wa : Nat) (hv : (cfgRtcm cap).step Q = .drop)
      (eq : r = ⟨{ s with state := .sync, cur := cu, errors := er, warnings := wa }, -1, []⟩)
  /-- the candidate is a frame and is dispatched -/
  | accept (hv : (cfgRtcm cap).step Q = .emit Q.length)
      (eq : r = ⟨{ s with state := .sync, decoded := (s.decoded + 1) % U32 }, Int.ofNat Q.length, [cbOf Q]⟩)

/-- The CRC step with the frame inside the buffer ("in bounds"): no access is recorded as a fault. -/
theorem onByteCrc_inb {s : Rtcm} (quiet : Bool) (h6 : 6 ≤ s.cur) (hc : s.cur ≤ s.cap) :
    onByteCrc s quiet =
      if crc24Src (s.buf.take (s.cur - 3)) = s.be24 (s.cur - 3) then
        ⟨{ s with decoded := (s.decoded + 1) % U32, state := .sync }, Int.ofNat s.cur,
          [⟨s.be16 3 >>> 4, s.buf.take s.cur⟩]⟩
      else ⟨{ s.countError quiet with state := .sync }, -1, []⟩ := by
  have hcs : s.checkSize = s.cur - 3 := by unfold Rtcm.checkSize; rw [if_pos (by omega)]
  unfold onByteCrc
  rw [touch_lt (s := s) (i := 3) (by omega), touch_lt (s := s) (i := 4) (by omega), hcs,
    touchRange_le (s := s) (n := s.cur - 3) (by omega), touchRange_le (s := s) (n := s.cur - 3 + 3) (by omega)]

/-- What the CRC step reads of a stored frame `Q`. -/
theorem frame_reads {s : Rtcm} {Q : Bytes} (hp : s.buf.take s.next = Q) (hn : s.next = Q.length) (h6 : 6 ≤ Q.length) :
    crc24Src (s.buf.take (Q.length - 3)) = crc24q (Q.take (Q.length - 3)) ∧
      s.be24 (Q.length - 3) = be24At Q (Q.length - 3) ∧
      (⟨s.be16 3 >>> 4, s.buf.take Q.length⟩ : RtcmCb) = cbOf Q := by
  refine ⟨?_, be24_eq hp (by omega), ?_⟩
  · have e := List.take_take (l := s.buf) (i := Q.length - 3) (j := s.next)
    rw [hp, Nat.min_eq_left (by omega)] at e
    rw [crc24Src_eq, e]
  · unfold cbOf rtcmMsgNum
    rw [be16_eq hp (by omega), ← hn, hp]

theorem onByteSync_spec {cap : Nat} {s : Rtcm} {Q : Bytes} (hp : s.buf.take s.next = Q) (hn : s.next = Q.length)
    (hs : s.state = .sync) (hl : Q.length = 1) : ByteRes cap s Q (onByteSync s (s.rd (s.next - 1))) := by
  have hq : (s.rd (s.next - 1)).toNat = byteAt Q 0 := by rw [hn, hl]; exact rd_eq hp (by omega)
  unfold onByteSync
  by_cases hd : s.rd (s.next - 1) = 0xD3
  · rw [if_pos hd]
    exact .wait .header s.cur ⟨.inl hl, by rw [← hq, hd]; rfl⟩ rfl
  · rw [if_neg hd]
    exact .skip hs hl (fun h => hd (eq_preamble_of_toNat (hq.trans h))) rfl

section
variable {cap : Nat} {s : Rtcm} {Q : Bytes} (hb : Base cap s) (hp : s.buf.take s.next = Q) (hn : s.next = Q.length)
include hb hp hn

theorem onByteHeader_spec (quiet : Bool) (hs : s.state = .header) (hl : Q.length = 2 ∨ Q.length = 3)
    (h0 : byteAt Q 0 = 0xD3) : ByteRes cap s Q (onByteHeader s quiet) := by
  unfold onByteHeader
  by_cases h3 : s.next = 3
  · have hQ3 : Q.length = 3 := hn.symm.trans h3
    have hc3 : 3 ≤ s.cap := hb.capEq ▸ hb.cap3
    rw [if_pos h3, touch_lt (s := s) (i := 1) (Nat.lt_of_lt_of_le (by decide) hc3),
      touch_lt (s := s) (i := 2) (Nat.lt_of_lt_of_le (by decide) hc3), payloadSize_eq hp (Nat.le_of_eq h3.symm)]
    unfold onByteHeaderDone
    simp only
    by_cases hfit : rtcmPayloadLen Q + 6 ≤ s.cap ∧ rtcmPayloadLen Q + 6 ≤ 3 + 1023 + 3
    · rw [if_pos hfit]
      refine .wait .data _ ⟨Nat.le_of_eq hQ3.symm, ?_, hb.capEq ▸ hfit.1, h0, rfl⟩ rfl
      rw [hQ3]; exact Nat.lt_of_lt_of_le (by decide) (Nat.le_add_left 6 _)
    · rw [if_neg hfit]
      refine .reject _ _ _ (rtcm_step_badHeader cap (Nat.le_of_eq hQ3.symm) fun hh => hfit ⟨hb.capEq ▸ hh.2, ?_⟩) rfl
      exact Nat.add_le_add_right (rtcmPayloadLen_le Q) 6
  · rw [if_neg h3]
    have hl2 : Q.length = 1 ∨ Q.length = 2 := hl.elim .inr fun h => absurd (hn.trans h) h3
    exact .wait s.state s.cur (by rw [hs]; exact ⟨hl2, h0⟩) rfl

theorem onByteData_spec (quiet : Bool) (hs : s.state = .data) (h4 : 4 ≤ Q.length) (hlc : Q.length ≤ s.cur)
    (hcc : s.cur ≤ cap) (h0 : byteAt Q 0 = 0xD3) (hcur : s.cur = rtcmPayloadLen Q + 6) :
    ByteRes cap s Q (onByteData s quiet) := by
  unfold onByteData
  by_cases hfull : s.next = s.cur
  · have hQc : s.cur = Q.length := hfull.symm.trans hn
    have h6 : Q.length = rtcmPayloadLen Q + 6 := hQc.symm.trans hcur
    obtain ⟨e1, e2, e3⟩ := frame_reads hp hn (h6 ▸ Nat.le_add_left 6 _)
    have hstep := rtcm_step_full cap ⟨h0, hcur ▸ hcc⟩ h6
    rw [if_pos hfull, onByteCrc_inb quiet (hcur ▸ Nat.le_add_left 6 _) (hb.capEq ▸ hcc), hQc, e1, e2, e3]
    by_cases hc : crc24q (Q.take (Q.length - 3)) = be24At Q (Q.length - 3)
    · rw [if_pos hc] at hstep ⊢
      exact .accept hstep (by rw [hQc])
    · rw [if_neg hc] at hstep ⊢
      exact .reject _ _ _ hstep rfl
  · rw [if_neg hfull]
    exact .wait s.state s.cur (by rw [hs]; exact ⟨by omega, by omega, hcc, h0, hcur⟩) rfl

/-- `OnByte` on a state that held `P` coherently, with one more byte stored: `Q` is `P` and that byte. -/
theorem onByte_spec (quiet : Bool) {P : Bytes} (hst : StCoh cap s.state s.cur P) (hPQ : Q.take P.length = P)
    (hk : Q.length = P.length + 1) : ByteRes cap s Q (onByte s quiet) := by
  have hnk : s.next = P.length + 1 := hn.trans hk
  have hle : s.next ≤ s.cap := by
    have := List.length_take_le' s.next s.buf
    rwa [hp, ← hn, hb.len, ← hb.capEq] at this
  unfold onByte
  rw [if_neg (by simp [hb.hasBuf]), if_neg (hnk ▸ Nat.succ_ne_zero _),
    touch_lt (Nat.lt_of_lt_of_le (hnk ▸ Nat.lt_succ_self _) hle)]
  cases hs : s.state <;> rw [hs] at hst <;> simp only
  · exact onByteSync_spec hp hn hs (hk.trans (by rw [show P = [] from hst]; rfl))
  · obtain ⟨hl, h0⟩ := hst
    rw [← hPQ, byteAt_take (by omega)] at h0
    exact onByteHeader_spec hb hp hn _ hs (by omega) h0
  · obtain ⟨h3, hlc, hcc, h0, hcur⟩ := hst
    rw [← hPQ, byteAt_take (by omega)] at h0
    rw [← hPQ, rtcmPayloadLen_take _ _ h3] at hcur
    exact onByteData_spec hb hp hn _ hs (by omega) (by omega) hcc h0 hcur

end

/-- `r` is what execution that starts with `decoded_msg_count_ = d` and `t` bytes dispatched owes for the
window `w`: the frames of its scan as callbacks and in the two counters, the unjudged rest stored. -/
structure Delivers (cap : Nat) (r : ROut Nat) (w : Bytes) (d t : Nat) : Prop where
  cbs : r.cbs = (nscan cap w).1.map cbOf
  coh : Coh cap r.s (nscan cap w).2
  ret : r.ret = t + sumLen (nscan cap w).1
  dec : r.s.decoded = (d + (nscan cap w).1.length) % U32

/-- Nothing is owed for a stored candidate. -/
theorem Coh.delivers {cap t : Nat} {s : Rtcm} {P : Bytes} (h : Coh cap s P) :
    Delivers cap ⟨s, t, []⟩ P s.decoded t := by
  have hs := h.nscan_eq
  exact ⟨by rw [hs]; rfl, by rw [hs]; exact h, by rw [hs]; rfl, by rw [hs]; exact (Nat.mod_eq_of_lt h.base.dec).symm⟩

namespace Delivers
variable {cap d t : Nat} {r r₁ r₂ : ROut Nat} {w w' more : Bytes}

/-- The frames `F` are dispatched first; the rest of the execution owes `w'`. -/
theorem step {F : List Bytes} (hs : nscan cap w = (F ++ (nscan cap w').1, (nscan cap w').2))
    (h : Delivers cap r w' ((d + F.length) % U32) (t + sumLen F)) :
    Delivers cap ⟨r.s, r.ret, F.map cbOf ++ r.cbs⟩ w d t := by
  refine ⟨by rw [hs, h.cbs, List.map_append], by rw [hs]; exact h.coh, by rw [hs, h.ret, sumLen_append, Nat.add_assoc], ?_⟩
  rw [hs, h.dec, List.length_append, Nat.mod_add_mod, Nat.add_assoc]

theorem of_eq (e : nscan cap w = nscan cap w') (h : Delivers cap r w' d t) : Delivers cap r w d t :=
  ⟨e ▸ h.cbs, e ▸ h.coh, e ▸ h.ret, e ▸ h.dec⟩

theorem append (h₁ : Delivers cap r₁ w d t) (h₂ : Delivers cap r₂ ((nscan cap w).2 ++ more) r₁.s.decoded 0) :
    Delivers cap ⟨r₂.s, r₁.ret + r₂.ret, r₁.cbs ++ r₂.cbs⟩ (w ++ more) d t := by
  rw [h₁.cbs]
  exact step (r := ⟨r₂.s, r₁.ret + r₂.ret, r₂.cbs⟩) (nscan_append cap w more)
    ⟨h₂.cbs, h₂.coh, by rw [h₁.ret, h₂.ret, Nat.zero_add], by rw [h₂.dec, h₁.dec]⟩

end Delivers

/-- Loop invariant of `Resync`: while searching nothing is stored; otherwise the candidate
`buffer_[0, offset)` is stored coherently. -/
structure RInv (cap : Nat) (x : RLoop) : Prop where
  base : Base cap x.s
  avail : x.available ≤ cap
  st : if x.s.state = .sync then x.s.next = 0
       else x.prev + 1 ≤ x.available ∧ Coh cap x.s (x.s.buf.take (x.prev + 1))

/-- The bytes of the window the loop has not judged yet. -/
def todo (x : RLoop) : Bytes :=
  if x.s.state = .sync then (x.s.buf.take x.available).drop (x.prev + 1) else x.s.buf.take x.available

theorem todo_sync {x : RLoop} (h : x.s.state = .sync) :
    todo x = (x.s.buf.take x.available).drop (x.prev + 1) := if_pos h

theorem todo_cand {x : RLoop} (h : ¬ x.s.state = .sync) : todo x = x.s.buf.take x.available := if_neg h

/-- Part of a loop iteration, entered with counters `d`, `t` and `w` still to judge, ends in `p.1` having
made the callbacks `p.2`: frames `F` went out and were counted, and what is left of `w` is what `p.1` has
still to judge. -/
def Advances (cap : Nat) (p : RLoop × List RtcmCb) (w : Bytes) (d t : Nat) : Prop :=
  ∃ F, p.2 = F.map cbOf ∧ RInv cap p.1 ∧
    nscan cap w = (F ++ (nscan cap (todo p.1)).1, (nscan cap (todo p.1)).2) ∧
    p.1.total = t + sumLen F ∧ p.1.s.decoded = (d + F.length) % U32

theorem resyncProcess_spec {cap : Nat} {s : Rtcm} (o a t : Nat) (hb : Base cap s) (ho : o < a) (ha : a ≤ cap)
    (hst : StCoh cap s.state s.cur (s.buf.take o)) :
    Advances cap (resyncProcess s o a t) (s.buf.take a) s.decoded t := by
  have hoc : o + 1 ≤ s.buf.length := hb.len ▸ Nat.le_trans ho ha
  have hlen : (s.buf.take (o + 1)).length = o + 1 := List.length_take_of_le hoc
  have hlo : (s.buf.take o).length = o := List.length_take_of_le (Nat.le_of_succ_le hoc)
  have hWQ : (s.buf.take a).take (o + 1) = s.buf.take (o + 1) := by
    rw [List.take_take, Nat.min_eq_left ho]
  have hd : s.decoded % U32 = s.decoded := Nat.mod_eq_of_lt hb.dec
  have hspec := onByte_spec (s := { s with next := o + 1 }) (Q := s.buf.take (o + 1))
    (hb.congr rfl rfl rfl rfl hb.dec) rfl hlen.symm true hst
    (by rw [hlo, List.take_take, Nat.min_eq_left (Nat.le_succ o)]) (by rw [hlen, hlo])
  -- a verdict on the replayed bytes `buffer_[0, o]`, unless it is "wait", is the verdict on all buffered bytes
  have hstepW {v : Cfg.Step} (hv : (cfgRtcm cap).step (s.buf.take (o + 1)) = v) (hne : v ≠ .stop) :
      (cfgRtcm cap).step (s.buf.take a) = v := by
    rw [Cfg.step_of_take (k := o + 1) (by rw [hWQ, hv]; exact hne), hWQ, hv]
  unfold resyncProcess
  cases hspec with
  | skip hs hl h0 eq =>
    have hs : s.state = .sync := hs
    rw [eq]
    simp only [if_pos hs, if_neg (show ¬ (0 : Int) > 0 by decide)]
    refine ⟨[], rfl, ⟨hb.congr rfl rfl rfl rfl hb.dec, ha, by simp only [if_pos hs]⟩,
      ?_, rfl, hd.symm⟩
    simp only [todo, if_pos hs, List.nil_append]
    refine nscan_of_ne fun h => h0 ?_
    rwa [byteAt_take (Nat.succ_pos o), ← byteAt_take (bs := s.buf) (k := a) (Nat.zero_lt_of_lt ho)]
  | wait st cu hst' eq =>
    have hns := hst'.ne_sync (by rw [hlen]; exact Nat.succ_pos o)
    rw [eq]
    simp only [if_neg hns]
    refine ⟨[], rfl, ⟨hb.congr rfl rfl rfl rfl hb.dec, ha, ?_⟩, ?_, rfl, hd.symm⟩
    · simp only [if_neg hns]
      exact ⟨ho, hb.congr rfl rfl rfl rfl hb.dec, hlen.symm, rfl, hst'⟩
    · simp only [todo, if_neg hns, List.nil_append]
  | reject cu er wa hv eq =>
    rw [eq]
    simp only [if_true, if_neg (show ¬ (-1 : Int) > 0 by decide)]
    refine ⟨[], rfl, ⟨hb.congr rfl rfl rfl rfl hb.dec, ha, by simp only [if_true]⟩, ?_, rfl, hd.symm⟩
    simp only [todo, if_true, List.nil_append]
    exact nscan_drop cap (hstepW hv (by simp))
  | accept hv eq =>
    -- the counter was incremented modulo 2^32: `Base.dec` again by `Nat.mod_lt`
    rw [hlen] at hv
    rw [eq, hlen]
    simp only [if_true, if_pos (show (Int.ofNat (o + 1)) > 0 from Int.ofNat_succ_pos o)]
    refine ⟨[s.buf.take (o + 1)], rfl,
      ⟨hb.congr rfl rfl rfl rfl (Nat.mod_lt _ (by decide)), ha, by simp only [if_true]⟩, ?_, by simp [sumLen, hlen], rfl⟩
    simp only [todo, if_true]
    rw [nscan_emit cap (hstepW hv (by simp)), hWQ]
    rfl

theorem memmove_spec {cap : Nat} {s : Rtcm} (hb : Base cap s) {o a : Nat} (ho : o ≤ a) (ha : a ≤ cap) :
    ∃ B, s.memmove o (a - o) = { s with buf := B } ∧ B.length = s.buf.length ∧
      B.take (a - o) = (s.buf.take a).drop o := by
  obtain ⟨hl, ht⟩ := memmove_list s.buf o (hb.len ▸ ha)
  refine ⟨_, ?_, hl, ht⟩
  unfold Rtcm.memmove; rw [touchRange_le (by rw [Nat.add_sub_cancel' ho, hb.capEq]; exact ha)]

theorem resyncIter_spec {cap : Nat} {x : RLoop} (hi : RInv cap x) (hlt : x.prev + 1 < x.available) :
    Advances cap (resyncIter x) (todo x) x.s.decoded x.total := by
  obtain ⟨hb, ha, hst⟩ := hi
  have htouch : x.s.touch (x.prev + 1) = x.s := touch_lt (hb.capEq ▸ Nat.lt_of_lt_of_le hlt ha)
  unfold resyncIter
  by_cases hs : x.s.state = .sync
  · rw [if_pos hs] at hst
    rw [if_pos hs, htouch]
    by_cases hd : x.s.rd (x.prev + 1) = 0xD3
    · -- `available_bytes -= offset; memmove(...)`: the window becomes what was left to judge
      obtain ⟨B, hmm, hBl, hwin⟩ := memmove_spec hb (o := x.prev + 1) (a := x.available) (Nat.le_of_lt hlt) ha
      rw [← todo_sync hs] at hwin
      rw [if_pos hd, hmm]
      have h := resyncProcess_spec (s := { x.s with buf := B }) 0 (x.available - (x.prev + 1)) x.total
        (hb.congr rfl rfl rfl hBl hb.dec) (Nat.sub_pos_of_lt hlt) (Nat.le_trans (Nat.sub_le ..) ha) (by rw [hs]; rfl)
      rwa [hwin] at h
    · rw [if_neg hd]
      refine ⟨[], rfl, ⟨hb, ha, by simp only [if_pos hs]; exact hst⟩, ?_, rfl, (Nat.mod_eq_of_lt hb.dec).symm⟩
      have h0 : byteAt (todo x) 0 ≠ 0xD3 := by
        rw [todo_sync hs, byteAt_drop, byteAt_take hlt]
        exact fun h => hd (eq_preamble_of_toNat h)
      rw [nscan_of_ne h0]
      simp only [todo, if_pos hs, List.nil_append, List.drop_drop]
  · rw [if_neg hs] at hst
    rw [if_neg hs, htouch]
    have h := resyncProcess_spec (x.prev + 1) x.available x.total hb hlt ha hst.2.st
    rwa [← todo_cand hs] at h

theorem resyncLoop_spec {cap : Nat} {x : RLoop} (hi : RInv cap x) :
    Delivers cap (resyncLoop x) (todo x) x.s.decoded x.total := by
  fun_induction resyncLoop x with
  | case1 x hlt ih =>
    obtain ⟨F, h1, h2, h3, h4, h5⟩ := resyncIter_spec hi hlt
    rw [h1]
    exact .step h3 (by rw [← h4, ← h5]; exact ih h2)
  | case2 x hge =>
    obtain ⟨hb, ha, hst⟩ := hi
    unfold todo
    by_cases hs : x.s.state = .sync
    · rw [if_pos hs] at hst ⊢
      rw [List.drop_eq_nil_of_le (Nat.le_trans (List.length_take_le ..) (Nat.le_of_not_lt hge))]
      exact (hb.coh_nil hs hst).delivers
    · rw [if_neg hs] at hst ⊢
      rw [← Nat.le_antisymm hst.1 (Nat.le_of_not_lt hge)]
      exact hst.2.delivers

/-- One byte of `OnData`: `buffer_[next_byte_index_++] = byte; OnByte(false)`, then `Resync()` if the candidate
was rejected. -/
theorem onDataByte_spec {cap : Nat} {s : Rtcm} {P : Bytes} (b : Byte) (h : Coh cap s P) :
    Delivers cap (onDataByte s b) (P ++ [b]) s.decoded 0 := by
  have hb := h.base
  have hPlt := h.lt_cap
  have hwr : s.wr s.next b = { s with buf := s.buf.set s.next b } := by
    unfold Rtcm.wr; rw [if_pos (by rw [h.next, hb.capEq]; exact hPlt)]
  have hQ : (s.buf.set s.next b).take (s.next + 1) = P ++ [b] := by
    rw [take_set_succ _ _ _ (by rw [hb.len, h.next]; exact hPlt), h.pref]
  have hb' : Base cap { ({ s with buf := s.buf.set s.next b } : Rtcm) with next := s.next + 1 } :=
    hb.congr rfl rfl rfl (List.length_set ..) hb.dec
  have hspec := onByte_spec (Q := P ++ [b]) hb' hQ (by rw [List.length_append, h.next]; rfl) false h.st
    (List.take_left' rfl) (List.length_append ..)
  unfold onDataByte
  rw [hwr]
  generalize onByte _ false = r at hspec
  unfold onDataAfter
  cases hspec with
  | skip hs hl h0 eq =>
    subst eq
    have hP : s.next = 0 := by rw [h.next]; simpa using hl
    simp only [if_true, hP]
    refine .of_eq ((nscan_of_ne h0).trans (by rw [List.drop_of_length_le (Nat.le_of_eq hl)]))
      (Coh.delivers (Base.coh_nil ?_ hs rfl))
    exact hb.congr rfl rfl rfl (List.length_set ..) hb.dec
  | wait st cu hst eq =>
    subst eq
    simp only [if_true]
    refine Coh.delivers ⟨?_, ?_, hQ, hst⟩
    · exact hb'.congr rfl rfl rfl rfl hb'.dec
    · simp [h.next]
  | reject cu er wa hv eq =>
    subst eq
    simp only [if_neg (show ¬ (-1 : Int) = 0 by decide), if_neg (show ¬ (-1 : Int) > 0 by decide),
      if_pos (Nat.succ_pos s.next), List.nil_append]
    unfold resync
    simp only
    refine .of_eq ?_ (resyncLoop_spec ⟨?_, ?_, ?_⟩)
    · rw [todo_sync rfl, nscan_drop cap hv]
      simp only [hQ, Nat.zero_add]
    · exact hb'.congr rfl rfl rfl rfl hb'.dec
    · show s.next + 1 ≤ cap; rw [h.next]; omega
    · simp only [if_true]
  | accept hv eq =>
    -- as in `resyncProcess_spec`: `Base.dec` of the new state by `Nat.mod_lt`
    subst eq
    have hpos : (Int.ofNat (P ++ [b]).length) > 0 := by rw [List.length_append]; exact Int.ofNat_succ_pos _
    simp only [if_neg (Int.ne_of_gt hpos), if_pos hpos]
    have hc : Coh cap
        { s with buf := s.buf.set s.next b, state := .sync, next := 0, decoded := (s.decoded + 1) % U32 } [] :=
      Base.coh_nil (hb'.congr rfl rfl rfl rfl (Nat.mod_lt _ (by decide))) rfl rfl
    rw [show (Int.ofNat (P ++ [b]).length).toNat = 0 + sumLen [P ++ [b]] by simp [sumLen]]
    refine .step (F := [P ++ [b]]) (w' := []) ?_ hc.delivers
    rw [nscan_emit cap hv, List.take_length, List.drop_length]; rfl

theorem onDataLoop_spec {cap : Nat} {s : Rtcm} {P : Bytes} (data : Bytes) (h : Coh cap s P) :
    Delivers cap (onDataLoop s data) (P ++ data) s.decoded 0 := by
  induction data generalizing s P with
  | nil => rw [List.append_nil]; exact h.delivers
  | cons b bs ih =>
    rw [List.append_cons]
    exact (onDataByte_spec b h).append (ih (onDataByte_spec b h).coh)

theorem onData_spec {cap : Nat} {s : Rtcm} {P : Bytes} (data : Bytes) (h : Coh cap s P) :
    Delivers cap (onData s data) (P ++ data) s.decoded 0 := by
  unfold onData
  rw [if_pos h.base.hasBuf]
  exact onDataLoop_spec data h

theorem coh_reset {cap : Nat} {s : Rtcm} (h1 : s.hasBuf = true) (h2 : s.fault = false) (h3 : s.cap = cap)
    (h4 : s.buf.length = cap) (h5 : 3 ≤ cap) : Coh cap s.reset [] :=
  Base.coh_nil ⟨h1, h2, h3, h4, h5, by show 0 < U32; decide⟩ rfl rfl

theorem Base.reset_coh {cap : Nat} {s : Rtcm} (h : Base cap s) : Coh cap s.reset [] :=
  coh_reset h.hasBuf h.nofault h.capEq h.len h.cap3

theorem alignUp4_bounds (a : Nat) : a ≤ alignUp4 a ∧ alignUp4 a ≤ a + 3 ∧ alignUp4 a % 4 = 0 := by
  unfold alignUp4; omega

/-- What remains of `c ≥ 6` bytes at `a` behind the first aligned address `u ≤ a + 3`: at least 3 bytes, and
they end where the `c` bytes end. -/
theorem aligned_region {a u c : Nat} (h1 : a ≤ u) (h2 : u ≤ a + 3) (h6 : 6 ≤ c) :
    3 ≤ c - (u - a) ∧ u + (c - (u - a)) = a + c := by
  omega

theorem install_coh (s : Rtcm) (addr capacity : Nat) (fill : Nat → Byte) (hf : s.fault = false)
    (h6 : 6 ≤ capacity) :
    Coh (capacity - (alignUp4 addr - addr)) (s.install addr capacity fill) [] := by
  have := alignUp4_bounds addr
  unfold Rtcm.install
  exact coh_reset rfl hf rfl (by simp) (aligned_region this.1 this.2.1 h6).1

/-- `s'` has the same buffer pointer and capacity as `s`, and an out-of-bounds access recorded in `s`
is still recorded in `s'`: what no operation of the framing path undoes, in arbitrary states. -/
structure Mono (s s' : Rtcm) : Prop where
  hasBuf : s'.hasBuf = s.hasBuf
  cap : s'.cap = s.cap
  fault : s.fault = true → s'.fault = true

namespace Mono
variable {s t : Rtcm}

theorem refl (s : Rtcm) : Mono s s := ⟨rfl, rfl, id⟩

/-- The framing path assigns these fields only (and `fault`, through `touch`, `touchRange`, `wr`).
Stated for the literal record update so that it applies by matching: checking
`⟨h.hasBuf, h.cap, h.fault⟩` against a state built by several model functions makes the unifier
unfold all of them. -/
theorem ctl (h : Mono s t) (b : Bytes) (st : RState) (nx cu er de wa : Nat) :
    Mono s { t with buf := b, state := st, next := nx, cur := cu, errors := er, decoded := de, warnings := wa } :=
  ⟨h.hasBuf, h.cap, h.fault⟩

/-- All an out-of-bounds access does is to set the flag. -/
theorem faulted (h : Mono s t) : Mono s { t with fault := true } := ⟨h.hasBuf, h.cap, fun _ => rfl⟩

theorem touch (h : Mono s t) (i : Nat) : Mono s (t.touch i) := by
  unfold Rtcm.touch; split
  · exact h
  · exact h.faulted

theorem touchRange (h : Mono s t) (n : Nat) : Mono s (t.touchRange n) := by
  unfold Rtcm.touchRange; split
  · exact h
  · exact h.faulted

theorem wr (h : Mono s t) (i : Nat) (b : Byte) : Mono s (t.wr i b) := by
  unfold Rtcm.wr; split
  · exact h.ctl ..
  · exact h.faulted

theorem countError (h : Mono s t) (q : Bool) : Mono s (t.countError q) := h.ctl ..

theorem memmove (h : Mono s t) (o n : Nat) : Mono s (t.memmove o n) := (h.touchRange _).ctl ..

theorem onByteHeader (h : Mono s t) (q : Bool) : Mono s (onByteHeader t q).s := by
  unfold RtcmFramer.onByteHeader; split
  · unfold onByteHeaderDone; split
    · exact ((h.touch 1).touch 2).ctl ..
    · exact ((((h.touch 1).touch 2).ctl ..).countError q).ctl ..
  · exact h

theorem onByteData (h : Mono s t) (q : Bool) : Mono s (onByteData t q).s := by
  unfold RtcmFramer.onByteData; split
  · unfold onByteCrc; split
    · exact ((((h.touch 3).touch 4).touchRange _).touchRange _).ctl ..
    · exact (((((h.touch 3).touch 4).touchRange _).touchRange _).countError q).ctl ..
  · exact h

theorem onByte (h : Mono s t) (q : Bool) : Mono s (onByte t q).s := by
  unfold RtcmFramer.onByte
  split; · exact h
  split; · exact h
  split
  · unfold onByteSync; split <;> exact (h.touch _).ctl ..
  · exact (h.touch _).onByteHeader _
  · exact (h.touch _).onByteData _

theorem resyncProcess (h : Mono s t) (o a n : Nat) : Mono s (resyncProcess t o a n).1.s := by
  have h' := (h.ctl t.buf t.state (o + 1) t.cur t.errors t.decoded t.warnings).onByte true
  unfold RtcmFramer.resyncProcess
  simp only
  split
  · split <;> exact h'.ctl ..
  · exact h'

theorem resyncIter {x : RLoop} (h : Mono s x.s) : Mono s (resyncIter x).1.s := by
  unfold RtcmFramer.resyncIter
  split
  · split
    · exact ((h.touch _).memmove _ _).resyncProcess ..
    · exact h.touch _
  · exact (h.touch _).resyncProcess ..

theorem resyncLoop {x : RLoop} (h : Mono s x.s) : Mono s (resyncLoop x).s := by
  fun_induction RtcmFramer.resyncLoop x with
  | case1 x hlt ih => exact ih h.resyncIter
  | case2 x hge => exact h

theorem resync (h : Mono s t) : Mono s (resync t).s :=
  Mono.resyncLoop (x := ⟨_, 0, t.next, 0⟩) (h.ctl ..)

theorem onDataAfter {r : ROut Int} (h : Mono s r.s) : Mono s (onDataAfter r).s := by
  unfold RtcmFramer.onDataAfter
  split; · exact h
  split; · exact h.ctl ..
  split
  · exact h.resync
  · exact h

theorem onDataByte (h : Mono s t) (b : Byte) : Mono s (onDataByte t b).s :=
  (((h.wr t.next b).ctl ..).onByte false).onDataAfter

theorem onDataLoop (h : Mono s t) (data : Bytes) : Mono s (onDataLoop t data).s := by
  induction data generalizing t with
  | nil => exact h
  | cons b bs ih => exact ih (h.onDataByte b)

theorem onData (h : Mono s t) (data : Bytes) : Mono s (onData t data).s := by
  unfold RtcmFramer.onData; split
  · exact h.onDataLoop data
  · exact h

end Mono

theorem onDataLoop_append (s : Rtcm) (a b : Bytes) :
    onDataLoop s (a ++ b) =
      ⟨(onDataLoop (onDataLoop s a).s b).s, (onDataLoop s a).ret + (onDataLoop (onDataLoop s a).s b).ret,
        (onDataLoop s a).cbs ++ (onDataLoop (onDataLoop s a).s b).cbs⟩ := by
  induction a generalizing s with
  | nil => simp [onDataLoop]
  | cons x xs ih =>
    simp only [List.cons_append, onDataLoop]
    rw [ih]
    simp [Nat.add_assoc]

theorem onData_of_hasBuf {s : Rtcm} (h : s.hasBuf = true) (d : Bytes) : onData s d = onDataLoop s d := by
  unfold onData; rw [if_pos h]

theorem onData_of_noBuf {s : Rtcm} (h : ¬ s.hasBuf = true) (d : Bytes) : onData s d = ⟨s, 0, []⟩ := by
  unfold onData; rw [if_neg h]

theorem onData_append (s : Rtcm) (a b : Bytes) :
    onData s (a ++ b) =
      ⟨(onData (onData s a).s b).s, (onData s a).ret + (onData (onData s a).s b).ret,
        (onData s a).cbs ++ (onData (onData s a).s b).cbs⟩ := by
  by_cases h : s.hasBuf = true
  · have hm := ((Mono.refl s).onDataLoop a).hasBuf
    rw [onData_of_hasBuf h, onData_of_hasBuf h, onData_of_hasBuf (by rw [hm]; exact h), onDataLoop_append]
  · rw [onData_of_noBuf h, onData_of_noBuf h]
    simp only
    rw [onData_of_noBuf h]
    simp

theorem onData_nil (s : Rtcm) : onData s [] = ⟨s, 0, []⟩ := by
  unfold onData; split <;> rfl

theorem rtcmFeed_flatten (s : Rtcm) (cs : List Bytes) :
    (rtcmFeed s cs).1 = (onData s cs.flatten).s ∧ (rtcmFeed s cs).2.2 = (onData s cs.flatten).cbs ∧
      (rtcmFeed s cs).2.1.sum = (onData s cs.flatten).ret := by
  induction cs generalizing s with
  | nil => simp [rtcmFeed, onData_nil]
  | cons d ds ih =>
    obtain ⟨i1, i2, i3⟩ := ih (onData s d).s
    simp only [rtcmFeed, List.flatten_cons, List.sum_cons]
    rw [onData_append, i1, i2, i3]
    exact ⟨rfl, rfl, rfl⟩

theorem rtcmFeed_spec {cap : Nat} {s : Rtcm} {P : Bytes} (chunks : List Bytes) (h : Coh cap s P) :
    Delivers cap ⟨(rtcmFeed s chunks).1, (rtcmFeed s chunks).2.1.sum, (rtcmFeed s chunks).2.2⟩
      (P ++ chunks.flatten) s.decoded 0 := by
  obtain ⟨e1, e2, e3⟩ := rtcmFeed_flatten s chunks
  rw [e1, e2, e3]
  exact onData_spec chunks.flatten h

theorem cbs_frames_len (F : List Bytes) : ((F.map cbOf).map fun c => c.frame.length).sum = sumLen F := by
  simp [sumLen, cbOf, Function.comp_def]

/-- No out-of-bounds access so far; if there is a buffer, the framer holds a coherent candidate; and the message
counter is a `uint32` (with or without a buffer). -/
structure RtcmInv (s : Rtcm) : Prop where
  nofault : s.fault = false
  coh : s.hasBuf = true → Coh s.cap s (s.buf.take s.next)
  dec : s.decoded < U32

theorem Coh.inv {cap : Nat} {s : Rtcm} {P : Bytes} (h : Coh cap s P) : RtcmInv s :=
  ⟨h.base.nofault, fun _ => by rw [h.base.capEq, h.pref]; exact h, h.base.dec⟩

theorem clearManaged_fault (s : Rtcm) : s.clearManaged.fault = s.fault := by
  unfold Rtcm.clearManaged; split <;> rfl

theorem setBuffer_fault (s : Rtcm) (buffer : Option Nat) (c a : Nat) (f : Nat → Byte) :
    (s.setBuffer buffer c a f).fault = s.fault := by
  unfold Rtcm.setBuffer
  split
  · rfl
  · cases buffer <;> exact clearManaged_fault s

theorem setBuffer_cases (s : Rtcm) (buffer : Option Nat) (c a : Nat) (f : Nat → Byte) (hf : s.fault = false) :
    s.setBuffer buffer c a f = s ∨ Coh (s.setBuffer buffer c a f).cap (s.setBuffer buffer c a f) [] := by
  unfold Rtcm.setBuffer
  split
  · exact .inl rfl
  · have hc : 6 ≤ clampCapacity c := by unfold clampCapacity; split <;> omega
    have hf' : s.clearManaged.fault = false := by rw [clearManaged_fault]; exact hf
    right
    cases buffer with
    | none => exact install_coh { s.clearManaged with managed := true } a (clampCapacity c) f hf' hc
    | some addr => exact install_coh s.clearManaged addr (clampCapacity c) f hf' hc

theorem construct_cases (buffer : Option Nat) (c a : Nat) (f : Nat → Byte) :
    Rtcm.construct buffer c a f = Rtcm.empty ∨
      Coh (Rtcm.construct buffer c a f).cap (Rtcm.construct buffer c a f) [] := by
  unfold Rtcm.construct
  cases buffer <;> exact setBuffer_cases _ _ _ _ _ rfl

theorem inv_empty : RtcmInv Rtcm.empty :=
  ⟨rfl, fun h => by simp [Rtcm.empty] at h, by show 0 < U32; decide⟩

theorem inv_apply (s : Rtcm) (op : RtcmOp) (h : RtcmInv s) : RtcmInv (s.apply op) := by
  cases op with
  | onData d =>
    show RtcmInv (onData s d).s
    by_cases hb : s.hasBuf = true
    · exact (onData_spec d (h.coh hb)).coh.inv
    · rw [onData_of_noBuf hb]; exact h
  | reset =>
    have hz : 0 < U32 := by decide
    exact ⟨h.nofault, fun hb => (h.coh hb).base.reset_coh, hz⟩
  | warnOnError e =>
    refine ⟨h.nofault, fun hb => ?_, h.dec⟩
    have hP := h.coh hb
    exact ⟨hP.base.congr rfl rfl rfl rfl hP.base.dec, hP.next, hP.pref, hP.st⟩
  | setBuffer b c a f =>
    rcases setBuffer_cases s b c a f h.nofault with e | hc
    · show RtcmInv (s.setBuffer b c a f); rw [e]; exact h
    · exact hc.inv

theorem inv_reach {s : Rtcm} (h : RtcmReach s) : RtcmInv s := by
  induction h with
  | default => exact inv_empty
  | construct b c a f =>
    rcases construct_cases b c a f with e | hc
    · rw [e]; exact inv_empty
    · exact hc.inv
  | call op _ ih => exact inv_apply _ op ih

end FeVerif.RtcmFramer
