/-
Index = sequential scan.  Whatever the number of workers, the blocks handed out are `0, R, 2R, …` in order, each
once (`allocate_flatten`).  Some block `j` reads to the end of the file and no block before it is a `break`,
so, however the blocks are divided, the candidates begin with the outputs of blocks `0 … j` in order
(`workers_prefix`); these are increasing and contain every acceptable position (`blocks_upto`), and whatever
follows them is at least acceptable (`mem_candidates`): the hypotheses of `sequentialPass_eq_scan`.
-/
import FeVerif.Proofs.Indexer

namespace FeVerif
namespace Indexer

/-- What one block contributes (`[]` when the worker `break`s there). -/
def blockOut (file : Bytes) (R M b : Nat) : List Entry :=
  match candidateLimit R M b (slice file b (R + M)).length with
  | none => []
  | some limit => scanBlock (slice file b (R + M)) b limit 0

theorem mem_blockOut {file : Bytes} {R M b : Nat} {e : Entry} :
    e ∈ blockOut file R M b ↔
      ∃ limit, candidateLimit R M b (slice file b (R + M)).length = some limit ∧
        b ≤ e.off ∧ e.off < b + limit ∧ validAt file e.off = some e.size ∧
        e.off + e.size ≤ b + (R + M) ∧ e.type = u16le file (e.off + 10) := by
  unfold blockOut
  cases candidateLimit R M b (slice file b (R + M)).length with
  | none => exact iff_of_false nofun nofun
  | some limit =>
    simp only [scanBlock_eq_filterMap, List.mem_filterMap, List.mem_range'_1, candAt_slice_eq_some,
      Option.some.injEq, exists_eq_left']
    constructor
    · rintro ⟨j, hj, ho, hv, hfit, hty⟩
      rw [ho]; exact ⟨by omega, by omega, hv, by omega, hty⟩
    · rintro ⟨hb, hlim, hv, hfit, hty⟩
      rw [← Nat.add_sub_cancel' hb] at hv hty
      exact ⟨e.off - b, by omega, by omega, hv, by omega, hty⟩

theorem pairwise_blockOut (file : Bytes) (R M b : Nat) : (blockOut file R M b).Pairwise (·.off < ·.off) := by
  rw [blockOut]
  split
  · exact .nil
  · rw [scanBlock_eq_filterMap]
    refine List.Pairwise.filterMap _ (fun j j' hlt e he e' he' => ?_) List.pairwise_lt_range'
    rw [(candAt_eq_some.1 he).2.1, (candAt_eq_some.1 he').2.1]
    exact Nat.add_lt_add_left hlt b

def nonBreak (file : Bytes) (R M b : Nat) : Bool :=
  (candidateLimit R M b (slice file b (R + M)).length).isSome

theorem worker_eq (file : Bytes) (R M : Nat) (bs : List Nat) :
    worker file R M bs = (bs.takeWhile (nonBreak file R M)).flatMap (blockOut file R M) := by
  induction bs with
  | nil => rfl
  | cons b bs ih =>
    rw [worker, List.takeWhile_cons, nonBreak]
    cases h : candidateLimit R M b (slice file b (R + M)).length with
    | none => rfl
    | some limit => simp only [ih, Option.isSome_some, if_true, List.flatMap_cons, blockOut, h]

theorem worker_append {file : Bytes} {R M : Nat} (pre rest : List Nat)
    (h : ∀ b ∈ pre, nonBreak file R M b) :
    worker file R M (pre ++ rest) = pre.flatMap (blockOut file R M) ++ worker file R M rest := by
  rw [worker_eq, worker_eq, List.takeWhile_append_of_pos h, List.flatMap_append]

theorem workers_prefix {file : Bytes} {R M : Nat} (alloc : List (List Nat)) (pre : List Nat)
    (hpre : pre <+: alloc.flatten) (hnb : ∀ b ∈ pre, nonBreak file R M b) :
    pre.flatMap (blockOut file R M) <+: (alloc.map (worker file R M)).flatten := by
  induction alloc generalizing pre with
  | nil => rw [List.prefix_nil.1 hpre]; exact List.nil_prefix
  | cons w ws ih =>
    obtain ⟨post, hflat⟩ := hpre
    rw [List.map_cons, List.flatten_cons]
    rcases List.append_eq_append_iff.1 hflat.symm with ⟨a', rfl, h2⟩ | ⟨c', rfl, -⟩
    · -- the worker's blocks are all in `pre`: it reports them all, the rest is up to the other workers
      obtain ⟨q, hq⟩ := ih a' ⟨post, h2.symm⟩ fun b hb => hnb b (List.mem_append_right _ hb)
      have : worker file R M w = w.flatMap (blockOut file R M) := by
        simpa [worker] using worker_append w [] fun b hb => hnb b (List.mem_append_left _ hb)
      exact ⟨q, by rw [← hq, this, List.flatMap_append, List.append_assoc]⟩
    · -- `pre` ends inside this worker's blocks
      exact ⟨_, by rw [worker_append pre c' hnb, List.append_assoc]⟩

/-- Workers `i, …, i+fuel-1` are handed consecutive multiples of `R`, each exactly once, in order:
`per` blocks each, and one more for those of them below `rem`. -/
theorem allocGo_flatten (R per rem i fuel c : Nat) :
    (allocGo R per rem i fuel (c * R)).flatten =
      (List.range' c (per * fuel + min (rem - i) fuel)).map (· * R) := by
  induction fuel generalizing i c with
  | zero => simp [allocGo]
  | succ f ih =>
    rw [allocGo, List.flatten_cons, ← Nat.add_mul, ih,
      show (fun k => c * R + k * R) = (· * R) ∘ (c + ·) from funext fun k => (Nat.add_mul ..).symm,
      ← List.map_map, ← List.range'_eq_map_range, ← List.map_append, List.range'_append_1, Nat.mul_succ]
    -- the lengths: this worker's share plus the others', `[i < rem] + min (rem - (i + 1)) f = min (rem - i) (f + 1)`
    congr 2
    split <;> omega

theorem allocate_flatten (R numBlocks nt : Nat) (hnt : 0 < nt) :
    (allocate R numBlocks nt).flatten = (List.range numBlocks).map (· * R) := by
  have := allocGo_flatten R (numBlocks / nt) (numBlocks % nt) 0 nt 0
  rw [Nat.zero_mul] at this
  rw [allocate, this, List.range_eq_range', Nat.sub_zero, Nat.min_eq_left (Nat.le_of_lt (Nat.mod_lt _ hnt)),
    Nat.div_add_mod']

theorem mem_candidates {file : Bytes} {R M nt : Nat} {e : Entry} (h : e ∈ candidates file R M nt) :
    validAt file e.off = some e.size ∧ e.type = u16le file (e.off + 10) := by
  simp only [candidates, List.mem_flatten, List.mem_map, worker_eq] at h
  obtain ⟨_, ⟨bs, -, rfl⟩, h⟩ := h
  obtain ⟨b, -, h⟩ := List.mem_flatMap.1 h
  obtain ⟨_, -, -, -, hv, -, hty⟩ := mem_blockOut.1 h
  exact ⟨hv, hty⟩

theorem block_succ_le {k k' : Nat} (R : Nat) (h : k < k') : k * R + R ≤ k' * R :=
  Nat.succ_mul k R ▸ Nat.mul_le_mul_right R h

/-- The block layout of a file of `L > 0` bytes: the blocks before some block `j` are read completely,
block `j` is read short without being a `break`, so it reads to the end of the file. -/
theorem exists_last_block {L R M : Nat} (hR : 0 < R) (hM : 0 < M) (hL : 0 < L) :
    ∃ j, j < (L + R - 1) / R ∧ (∀ k, k < j → k * R + R + M ≤ L) ∧ L < j * R + R + M ∧
      (j * R = 0 ∨ M ≤ L - j * R) := by
  -- `j = (L - M) / R`: the last block that still has the overlap `M` left to read, hence the first whose read is
  -- cut (block 0 when `L < M`)
  have h1 := Nat.div_mul_le_self (L - M) R
  have h2 := Nat.lt_div_mul_add (a := L - M) hR
  have h3 := Nat.lt_div_mul_add (a := L + R - 1) hR
  refine ⟨(L - M) / R, Nat.lt_of_mul_lt_mul_right (a := R) (by omega), fun k hk => ?_, by omega, by omega⟩
  have := block_succ_le R hk
  omega

theorem exists_block_containing {R : Nat} (hR : 0 < R) (p j : Nat) :
    ∃ k, k ≤ j ∧ k * R ≤ p ∧ (k < j → p < k * R + R) := by
  have h1 := Nat.div_mul_le_self p R
  have h2 := Nat.lt_div_mul_add (a := p) hR
  by_cases hp : p / R < j
  · exact ⟨p / R, Nat.le_of_lt hp, h1, fun _ => h2⟩
  · exact ⟨j, Nat.le_refl j, Nat.le_trans (Nat.mul_le_mul_right R (Nat.le_of_not_lt hp)) h1,
      fun h => absurd h (Nat.lt_irrefl j)⟩

section Main
variable {file : Bytes} {R M : Nat} (hR : 0 < R) (hRe : R % 2 = 0) (hsz : ∀ p n, validAt file p = some n → n ≤ M)

include hRe in
theorem candidateLimit_full {b : Nat} (hfull : b + R + M ≤ file.length) :
    candidateLimit R M b (slice file b (R + M)).length = some R := by
  rw [slice_length, Nat.min_eq_left (by omega), candidateLimit, if_pos rfl]
  congr 1; omega

include hR in
theorem candidateLimit_last {b : Nat} (hlast : file.length < b + R + M) (hnb : b = 0 ∨ M ≤ file.length - b) :
    candidateLimit R M b (slice file b (R + M)).length = some (2 * ((file.length - b) / 2 - 1)) := by
  rw [slice_length, Nat.min_eq_right (by omega), candidateLimit, if_neg (by omega), if_pos hnb]

include hR hRe hsz in
/-- In the layout of `exists_last_block`, no block up to `j` is a `break`; each of them reports exactly the
acceptable messages that start at or after its offset – in its first `R` bytes, for those before `j`
(no such message is longer than the overlap, so it ends inside what was read). -/
theorem blocks_upto {j k : Nat} (hfull : ∀ k, k < j → k * R + R + M ≤ file.length)
    (hlast : file.length < j * R + R + M) (hnb : j * R = 0 ∨ M ≤ file.length - j * R) (hk : k ≤ j) :
    nonBreak file R M (k * R) ∧
      ∀ e, e ∈ blockOut file R M (k * R) ↔ k * R ≤ e.off ∧ (k < j → e.off < k * R + R) ∧
        validAt file e.off = some e.size ∧ e.type = u16le file (e.off + 10) := by
  rcases Nat.lt_or_eq_of_le hk with hk | rfl
  · have hlim := candidateLimit_full hRe (hfull k hk)
    refine ⟨by rw [nonBreak, hlim]; rfl, fun e => ?_⟩
    simp only [mem_blockOut, hlim, Option.some.injEq, exists_eq_left', hk, true_imp_iff]
    constructor
    · rintro ⟨hb, hlt, hv, -, hty⟩; exact ⟨hb, hlt, hv, hty⟩
    · rintro ⟨hb, hlt, hv, hty⟩; have := hsz _ _ hv; exact ⟨hb, hlt, hv, by omega, hty⟩
  · have hlim := candidateLimit_last hR hlast hnb
    refine ⟨by rw [nonBreak, hlim]; rfl, fun e => ?_⟩
    simp only [mem_blockOut, hlim, Option.some.injEq, exists_eq_left', Nat.lt_irrefl, false_imp_iff, true_and]
    constructor
    · rintro ⟨hb, -, hv, -, hty⟩; exact ⟨hb, hv, hty⟩
    · rintro ⟨hb, hv, hty⟩; have := validAt_bounds hv; exact ⟨hb, by omega, hv, by omega, hty⟩

include hR hRe hsz in
theorem index_eq_scan (nt : Nat) (hnt : 0 < nt) :
    offs (index file R M nt) = cfgFile.runFile file 0 := by
  have hvalid : AllValid file (candidates file R M nt) := fun e he => (mem_candidates he).1
  show offs (sequentialPass 0 (candidates file R M nt)) = cfgFile.runFile (file.drop 0) 0
  by_cases hex : ∃ p n, validAt file p = some n
  case neg =>
    exact sequentialPass_eq_scan file [] _ 0 trivial nofun hvalid fun p n _ hv => absurd ⟨p, n, hv⟩ hex
  -- an acceptable message has at least 24 bytes, so neither the file nor the overlap is empty
  obtain ⟨p, n, hv⟩ := hex
  have hb := validAt_bounds hv
  obtain ⟨j, hjK, hfull, hlast, hnb⟩ :=
    exists_last_block (L := file.length) hR (M := M) (by have := hsz p n hv; omega) (by omega)
  have hnbk {k : Nat} (hk : k ≤ j) : nonBreak file R M (k * R) := (blocks_upto hR hRe hsz hfull hlast hnb hk).1
  have hmem {k : Nat} (hk : k ≤ j) (e : Entry) := (blocks_upto hR hRe hsz hfull hlast hnb hk).2 e
  -- the blocks up to `j` never `break`, so the candidates begin with their outputs
  have hpre : List.range (j + 1) <+: List.range ((file.length + R - 1) / R) := by
    rw [← Nat.min_eq_left (show j + 1 ≤ _ from hjK), ← List.take_range]; exact List.take_prefix _ _
  obtain ⟨q, hq⟩ := workers_prefix (file := file) (R := R) (M := M)
    (allocate R ((file.length + R - 1) / R) nt) ((List.range (j + 1)).map (· * R))
    (by rw [allocate_flatten _ _ _ hnt]; exact hpre.map _)
    (List.forall_mem_map.2 fun k hk => hnbk (Nat.le_of_lt_succ (List.mem_range.1 hk)))
  rw [candidates, ← hq] at hvalid ⊢
  refine sequentialPass_eq_scan file _ q 0 ?_ (fun e he => hvalid e (List.mem_append_left _ he))
    (fun e he => hvalid e (List.mem_append_right _ he)) fun p n _ hv => ?_
  · -- the entries of a block before `j` lie before the next block's offset
    rw [increasing_iff_pairwise, List.pairwise_flatMap, List.pairwise_map]
    refine ⟨fun b _ => pairwise_blockOut file R M b,
      List.pairwise_lt_range.imp_of_mem fun {k k'} hk hk' hlt x hx y hy => ?_⟩
    obtain ⟨-, hxhi, -, -⟩ := (hmem (Nat.le_of_lt_succ (List.mem_range.1 hk)) x).1 hx
    obtain ⟨hylo, -, -, -⟩ := (hmem (Nat.le_of_lt_succ (List.mem_range.1 hk')) y).1 hy
    have := hxhi (by have := List.mem_range.1 hk'; omega)
    have := block_succ_le R hlt
    omega
  · -- an acceptable position is reported by the block it lies in, or by block `j`
    obtain ⟨k, hk, hlo, hhi⟩ := exists_block_containing hR p j
    exact ⟨⟨p, n, u16le file (p + 10)⟩, List.mem_flatMap.2
      ⟨_, List.mem_map.2 ⟨k, List.mem_range.2 (Nat.lt_succ_of_le hk), rfl⟩,
        (hmem hk _).2 ⟨hlo, hhi, hv, rfl⟩⟩, rfl⟩

end Main

end Indexer
end FeVerif
