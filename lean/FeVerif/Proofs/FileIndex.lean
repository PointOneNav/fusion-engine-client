/-
The index file.  Codec: a record is read back field by field, so any cut of the encoded records decodes to
the records completely there (`decodeRecs_take`).  `load`: what it accepts (`load_eq_ok_iff`).  Together
with the scan of a data file that ends at a message of the old scan (`runFile_of_ends_at_msg`): whatever
`load` accepts of a partly written index after the data file grew or shrank (`load_truncated`).
-/
import FeVerif.Model.FileIndex
import FeVerif.Proofs.Frame
import FeVerif.Proofs.Header

namespace FeVerif
namespace FileIndex

open Cfg

/-- A record that fits its fields. -/
def Rec.WF (r : Rec) : Prop :=
  (match r.time with | some t => t < INVALID_TIME | none => True) ∧ r.type < 65536 ∧ r.offset < 18446744073709551616

theorem encodeRec_length (r : Rec) : (encodeRec r).length = REC := by
  unfold encodeRec; simp [REC]

theorem decodeRec_encodeRec (r : Rec) (h : r.WF) (rest : Bytes) : decodeRec (encodeRec r ++ rest) = r := by
  obtain ⟨time, type, offset⟩ := r
  obtain ⟨ht, hty, hoff⟩ := h
  simp only [decodeRec, encodeRec, List.append_assoc]
  rw [u32le_leBytes, u16le_skip 4 _ 0, u16le_leBytes, u64le_skip 4 _ 2, u64le_skip 2 _ 0, u64le_leBytes,
    Nat.mod_eq_of_lt hty, Nat.mod_eq_of_lt hoff]
  cases time with
  | none => rfl
  | some t =>
    rw [Nat.mod_eq_of_lt (show t < 4294967296 from Nat.lt_succ_of_lt ht), if_neg (Nat.ne_of_lt ht)]

theorem decodeRecs_unfold (b : Bytes) :
    decodeRecs b = if b.length < REC then [] else decodeRec (b.take REC) :: decodeRecs (b.drop REC) := by
  rw [decodeRecs.eq_def]; simp only [dite_eq_ite]

theorem decodeRecs_cons (r : Rec) (h : r.WF) (b : Bytes) :
    decodeRecs (encodeRec r ++ b) = r :: decodeRecs b := by
  have hl := encodeRec_length r
  -- `decodeRec_encodeRec` reads a record off the front of `encodeRec r ++ rest`; here `rest = []`
  rw [decodeRecs_unfold, if_neg (by rw [List.length_append, hl]; omega), List.drop_left' hl,
    List.take_left' hl, ← List.append_nil (encodeRec r), decodeRec_encodeRec r h]

theorem encodeRecs_cons (r : Rec) (l : List Rec) : encodeRecs (r :: l) = encodeRec r ++ encodeRecs l := rfl

theorem encodeRecs_length (l : List Rec) : (encodeRecs l).length = REC * l.length := by
  induction l with
  | nil => rfl
  | cons r rs ih => rw [encodeRecs_cons, List.length_append, ih, encodeRec_length, List.length_cons, Nat.mul_succ, Nat.add_comm]

theorem decodeRecs_take (l : List Rec) (hwf : ∀ r ∈ l, r.WF) (k : Nat) :
    decodeRecs ((encodeRecs l).take k) = l.take (k / REC) := by
  induction l generalizing k with
  | nil => rw [decodeRecs_unfold, if_pos (by simp [encodeRecs, REC])]; simp
  | cons r rs ih =>
    have hl := encodeRec_length r
    rw [encodeRecs_cons, List.take_append, hl]
    by_cases hk : k < REC
    · rw [decodeRecs_unfold, if_pos (by simp only [List.length_append, List.length_take, hl]; omega),
        Nat.div_eq_of_lt hk, List.take_zero]
    · rw [List.take_of_length_le (by omega), decodeRecs_cons r (hwf r List.mem_cons_self),
        ih (fun x hx => hwf x (List.mem_cons_of_mem _ hx)),
        show k / REC = (k - REC) / REC + 1 by unfold REC at *; omega, List.take_succ_cons]

theorem decodeRecs_encodeRecs (l : List Rec) (hwf : ∀ r ∈ l, r.WF) : decodeRecs (encodeRecs l) = l := by
  have := decodeRecs_take l hwf (encodeRecs l).length
  rwa [List.take_length, encodeRecs_length, Nat.mul_div_cancel_left _ (by decide : 0 < REC),
    List.take_length] at this

theorem load_eq_ok_iff {ibytes data : Bytes} {i : List Rec} :
    load ibytes data = .ok i ↔
      (data = [] ∧ decodeRecs ibytes = [] ∧ i = []) ∨
      ∃ last, (decodeRecs ibytes).getLast? = some last ∧ data ≠ [] ∧
        if last.type = INVALID_TYPE then data.length = last.offset ∧ i = (decodeRecs ibytes).dropLast
        else last.offset + HDR + u32le data (last.offset + 16) = data.length ∧ i = decodeRecs ibytes := by
  unfold load
  generalize decodeRecs ibytes = recs
  have hd : data.length = 0 ↔ data = [] := List.length_eq_zero_iff
  cases hl : recs.getLast? with
  | none =>
    rw [List.getLast?_eq_none_iff] at hl; subst hl
    by_cases h0 : data = [] <;> simp [h0, eq_comm]
  | some last =>
    have hne : recs ≠ [] := fun h => by rw [h] at hl; cases hl
    by_cases h0 : data = []
    · simp [h0, hne]
    · simp only [hd, h0, hne, false_and, and_false, if_false, false_or, ne_eq, not_false_eq_true, true_and,
        Option.some.injEq, exists_eq_left']
      by_cases hty : last.type = INVALID_TYPE
      · by_cases hsz : data.length = last.offset <;> simp [hty, hsz, eq_comm]
      · by_cases hend : last.offset + HDR + u32le data (last.offset + 16) = data.length
        · simp [hty, hend, eq_comm, show ¬ last.offset + HDR > data.length by omega]
        · by_cases hfit : last.offset + HDR > data.length <;> simp [hty, hend, hfit]

theorem take_eq_of_append_or_take {α} {d d' : List α} (h : (∃ x, d' = d ++ x) ∨ (∃ m, d' = d.take m))
    {m : Nat} (hm : m ≤ d.length) (hm' : m ≤ d'.length) : d'.take m = d.take m := by
  rcases h with ⟨x, rfl⟩ | ⟨m0, rfl⟩
  · exact List.take_append_of_le_length hm
  · rw [List.length_take] at hm'
    rw [List.take_take, Nat.min_eq_left (by omega)]

/-- A data file that agrees with `d` as far as both go and ends exactly where the header, read in the
new file, of a message of `d`'s scan says that message ends, is `d` cut at the end of that message: its
scan is the old scan up to and including that message. -/
theorem runFile_of_ends_at_msg {d d' : Bytes} (hd' : (∃ x, d' = d ++ x) ∨ (∃ m, d' = d.take m))
    {l1 l2 : List (Nat × Nat)} {o n : Nat} (h : cfgFile.runFile d 0 = l1 ++ (o, n) :: l2)
    (hend : o + HDR + u32le d' (o + 16) = d'.length) : cfgFile.runFile d' 0 = l1 ++ [(o, n)] := by
  have hv : cfgFile.stepFile (d.drop o) = .emit n :=
    runFile_mem_valid (c := cfgFile) d 0 (o, n) (by rw [h]; simp)
  obtain ⟨-, -, hn, hb, -⟩ := cfgFile_stepFile_emit.1 hv
  rw [u32le_drop] at hn
  rw [List.length_drop] at hb
  have := HDR_eq
  -- the payload size read from `d'` is the one in `d`
  have hu : u32le d' (o + 16) = u32le d (o + 16) := by
    rw [← u32le_take (k := o + 24) (by omega), take_eq_of_append_or_take hd' (by omega) (by omega),
      u32le_take (by omega)]
  have hcut : d' = d.take d'.length := by
    rw [← take_eq_of_append_or_take hd' (by omega) (Nat.le_refl _), List.take_length]
  rw [hcut]
  exact runFile_take_of_append (by omega) h (by omega)

theorem load_truncated (d : Bytes) (idx : List Rec) (hwf : ∀ r ∈ idx ++ [⟨none, INVALID_TYPE, d.length⟩], r.WF)
    (hty : ∀ r ∈ idx, r.type ≠ INVALID_TYPE)
    (hidx : idx.map (·.offset) = (cfgFile.runFile d 0).map (·.1))
    (k : Nat) (d' : Bytes) (hd' : (∃ x, d' = d ++ x) ∨ (∃ m, d' = d.take m)) (i : List Rec)
    (hload : load ((encodeRecs (idx ++ [⟨none, INVALID_TYPE, d.length⟩])).take k) d' = .ok i) :
    i <+: idx ∧ cfgFile.runFile d' 0 <+: cfgFile.runFile d 0 ∧
      i.map (·.offset) = (cfgFile.runFile d' 0).map (·.1) := by
  rw [load_eq_ok_iff, decodeRecs_take _ hwf] at hload
  generalize k / REC = j at hload
  rcases hload with ⟨rfl, -, rfl⟩ | ⟨last, hl, -, hcase⟩
  · rw [runFile_of_short (c := cfgFile) (buf := []) 0 cfgFile.hdrLen_pos]
    exact ⟨List.nil_prefix, List.nil_prefix, rfl⟩
  by_cases hj : j ≤ idx.length
  · -- only entries survived; split the index, and with it the scan of `d`, behind the last of them
    rw [List.take_append_of_le_length hj] at hl hcase
    rw [if_neg (hty last (List.mem_of_mem_take (List.mem_of_getLast? hl)))] at hcase
    obtain ⟨hend, rfl⟩ := hcase
    obtain ⟨init, hinit⟩ := List.getLast?_eq_some_iff.1 hl
    rw [← List.take_append_drop j idx, hinit, List.map_append, List.map_append] at hidx
    obtain ⟨S1, S2, hS, h1, -⟩ := List.map_eq_append_iff.1 hidx.symm
    obtain ⟨L1, Le, rfl, hL1, hLe⟩ := List.map_eq_append_iff.1 h1
    obtain ⟨⟨o, n⟩, rfl, rfl⟩ := List.map_eq_singleton_iff.1 hLe
    rw [List.append_assoc, List.singleton_append] at hS
    have hnew := runFile_of_ends_at_msg hd' hS hend
    refine ⟨List.take_prefix _ _, ⟨S2, by rw [hS, hnew, List.append_assoc, List.singleton_append]⟩, ?_⟩
    rw [hnew, hinit, List.map_append, List.map_append, hL1]; rfl
  · -- the marker survived: the data size must be unchanged
    rw [List.take_of_length_le (by rw [List.length_append]; exact Nat.lt_of_not_le hj)] at hl hcase
    rw [List.getLast?_concat, Option.some.injEq] at hl
    subst hl
    rw [if_pos rfl, List.dropLast_concat] at hcase
    have hsz : d'.length = d.length := hcase.1
    have := take_eq_of_append_or_take hd' (Nat.le_refl _) (Nat.le_of_eq hsz.symm)
    rw [List.take_length, ← hsz, List.take_length] at this
    rw [this, hcase.2]
    exact ⟨List.prefix_refl _, List.prefix_refl _, hidx⟩

end FileIndex
end FeVerif
