/-
The data-loader model (FeVerif/Model/Loader.lean) for the code as it is (`Variant.current`).

One call is brought into closed form: what it returns for a requested type it reads itself is
`entryOf` (the selection `sel0` filtered by type, aligned, converted), a function of the call alone.
For that, each loop over types or messages is an update `Cache.setAll` of the cache as a function; the
selection does not depend on which types are served from the cache (`selected_indep`, the one place where
`Reg.Disjoint` is needed); the "Nothing to read" shortcut returns what the general path would
(`entryOf_nothing`).  The cache invariant `Inv` says that every cached entry is the `entryOf` of the call its
stored parameters stand for (`effOf`: the type set is part of the key for across-types calls and does not
matter otherwise, `entryOf_indep`); a hit and a newly read entry are then the same thing
(`entryOf_effOf`), and `read_current` is the induction step for call histories.  The last part relates
`sel0` to the specification of a fresh read.
-/
import FeVerif.Spec.Loader

namespace FeVerif.Loader

theorem Cache.set_apply (c : Cache) (t u : Nat) (d : MData) :
    (c.set t d) u = if u = t then some d else c u := rfl

/-- What each loop over a list of types or of messages does to the cache. -/
def Cache.setAll (c : Cache) (ts : List Nat) (f : Nat → MData) : Cache :=
  fun u => if u ∈ ts then some (f u) else c u

theorem Cache.setAll_apply (c : Cache) (ts : List Nat) (f : Nat → MData) (u : Nat) :
    (c.setAll ts f) u = if u ∈ ts then some (f u) else c u := rfl

theorem Cache.setAll_congr (c : Cache) {ts : List Nat} {f g : Nat → MData} (h : ∀ t ∈ ts, f t = g t) :
    c.setAll ts f = c.setAll ts g := by
  funext u
  by_cases hu : u ∈ ts <;> simp [Cache.setAll_apply, hu, h]

theorem writeBack_map (f : Nat → MData) (ts : List Nat) (dc : Cache) :
    writeBack dc (ts.map (fun t => (t, f t))) = dc.setAll ts f := by
  induction ts generalizing dc with
  | nil => funext u; simp [writeBack, Cache.setAll_apply]
  | cons t ts ih =>
    rw [List.map_cons, writeBack, ih]
    funext u
    by_cases h : u = t <;> simp [Cache.setAll_apply, Cache.set_apply, h]

theorem createEntries_eq (p : Params) (ts : List Nat) (dc : Cache) :
    createEntries p dc ts = dc.setAll ts (fun _ => MData.fresh p) := by
  rw [← writeBack_map]
  induction ts generalizing dc with
  | nil => rfl
  | cons t ts ih => exact ih _

theorem lookupAll_setAll (dc : Cache) (N ts : List Nat) (a g : Nat → MData)
    (hhit : ∀ t ∈ ts, t ∉ N → dc t = some (g t)) :
    lookupAll (dc.setAll N a) ts = .ok (ts.map (fun t => (t, if t ∈ N then a t else g t))) := by
  induction ts with
  | nil => rfl
  | cons t ts ih =>
    have ht : (dc.setAll N a) t = some (if t ∈ N then a t else g t) := by
      by_cases h : t ∈ N <;> simp [Cache.setAll_apply, h, hhit t List.mem_cons_self]
    simp [lookupAll, ht, ih fun u hu => hhit u (List.mem_cons_of_mem _ hu)]

/-- `d` after `add_message` for every message of `l`. -/
def extend (ri : Bool) (d : MData) (l : List Entry) : MData :=
  { d with msgs := d.msgs ++ l.map Msg.orig, idx := if ri then d.idx ++ l.map (fun x => x.ord) else d.idx }

theorem extend_nil (ri : Bool) (d : MData) : extend ri d [] = d := by
  cases d; cases ri <;> simp [extend]

theorem extend_extend (ri : Bool) (d : MData) (l l' : List Entry) :
    extend ri (extend ri d l) l' = extend ri d (l ++ l') := by
  cases ri <;> simp [extend]

@[simp] theorem extend_idxArr (ri : Bool) (d : MData) (l : List Entry) : (extend ri d l).idxArr = d.idxArr := rfl
@[simp] theorem extend_params (ri : Bool) (d : MData) (l : List Entry) : (extend ri d l).params = d.params := rfl

theorem addMessage_ok (ri : Bool) (d : MData) (x : Entry) (h : d.idxArr = false) :
    addMessage ri d x = .ok (extend ri d [x]) := by
  cases ri <;> simp [addMessage, extend, h]

theorem storeOrdered_ok (e : Eff) (l : List Entry) (d : MData) (h : d.idxArr = false) :
    storeOrdered e d l = .ok (extend e.returnIndex d l) := by
  induction l generalizing d with
  | nil => simp [storeOrdered, extend_nil]
  | cons x xs ih =>
    simp [storeOrdered, addMessage_ok _ _ _ h, ih (extend e.returnIndex d [x]) (by simpa using h), extend_extend]

/-- The entry of type `t`, created by this call, after the storing loop has seen `sel`. -/
def baseEntry (p : Params) (ri : Bool) (sel : List Entry) (t : Nat) : MData :=
  extend ri (MData.fresh p) (sel.filter (fun x => x.type == t))

theorem baseEntry_nil (p : Params) (ri : Bool) : baseEntry p ri [] = fun _ => MData.fresh p :=
  funext fun _ => extend_nil ri _

theorem baseEntry_snoc (p : Params) (ri : Bool) (l : List Entry) (x : Entry) (t : Nat) :
    baseEntry p ri (l ++ [x]) t = if x.type = t then extend ri (baseEntry p ri l t) [x] else baseEntry p ri l t := by
  by_cases h : x.type = t <;> simp [baseEntry, List.filter_append, h, extend_extend]

/-- For `v.newOnly` the storing loop appends each message to the entry of its type when
that entry was created by this call and leaves every other entry alone; it cannot raise.  `l0` is what
the loop has stored already. -/
theorem storeAll_newOnly (v : Variant) (hv : v.newOnly = true) (e : Eff) (p : Params) (N : List Nat) (dc : Cache)
    (l0 l : List Entry) :
    storeAll v e N (dc.setAll N (baseEntry p e.returnIndex l0)) l =
      .ok (dc.setAll N (baseEntry p e.returnIndex (l0 ++ l))) := by
  induction l generalizing l0 with
  | nil => simp [storeAll]
  | cons x xs ih =>
    have hstep : dc.setAll N (baseEntry p e.returnIndex (l0 ++ [x])) =
        if x.type ∈ N then (dc.setAll N (baseEntry p e.returnIndex l0)).set x.type
          (extend e.returnIndex (baseEntry p e.returnIndex l0 x.type) [x])
        else dc.setAll N (baseEntry p e.returnIndex l0) := by
      funext u
      by_cases hu : u = x.type
      · subst hu
        by_cases hx : x.type ∈ N <;> simp [Cache.set_apply, Cache.setAll_apply, baseEntry_snoc, hx]
      · by_cases hx : x.type ∈ N <;>
          simp [Cache.set_apply, Cache.setAll_apply, baseEntry_snoc, hx, hu, Ne.symm hu]
    rw [List.append_cons, ← ih, storeAll, hstep]
    by_cases hx : x.type ∈ N
    · simp [hv, hx, Cache.setAll_apply, addMessage_ok _ (baseEntry p e.returnIndex l0 x.type) x rfl]
    · simp [hv, hx]

variable {reg : Reg} {rd : Reader} {log : List Entry}

theorem mem_neededOf {e : Eff} {N : List Nat} {t : Nat} :
    t ∈ neededOf reg e N ↔ t ∈ N ∧ reg.known t = true ∧
      (if e.requireP1 && e.requireSys then reg.hasP1 t || reg.hasSys t
       else (!e.requireP1 || reg.hasP1 t) && (!e.requireSys || reg.hasSys t)) = true := by
  cases h1 : e.requireP1 <;> cases h2 : e.requireSys <;>
    simp [neededOf, neededAfterRequire, h1, h2, and_comm]

theorem neededOf_nil (e : Eff) : neededOf reg e [] = [] :=
  List.eq_nil_iff_forall_not_mem.2 fun _ h => absurd (mem_neededOf.1 h).1 List.not_mem_nil

theorem sysReqOf_nil (e : Eff) : sysReqOf reg e [] = false := by
  simp [sysReqOf, neededOf_nil]

/-- The selection of a call.  The `0`: it is computed with no type to read (`N = []`), i.e. with
`system_time_messages_requested = False`; by `selected_indep` it is the selection for every `N`. -/
def sel0 (reg : Reg) (rd : Reader) (log : List Entry) (e : Eff) : List Entry :=
  selected Variant.current reg rd log e []

/-- The model's `readOk` tests a message by the registry's tables for its type, the tables by which `neededOf`
filtered the types. -/
theorem type_mem_neededOf {e : Eff} {N : List Nat} {x : Entry}
    (hr : readOk reg rd log e x = true) (hx : x.type ∈ N) : x.type ∈ neededOf reg e N := by
  simp only [readOk, Bool.and_eq_true] at hr
  obtain ⟨⟨⟨_, hp⟩, hs⟩, hk⟩ := hr
  refine mem_neededOf.2 ⟨hx, hk, ?_⟩
  split
  · -- both required: the types were filtered by the disjunction, a message is tested for the conjunction
    rename_i hc
    rw [(Bool.and_eq_true_iff.1 hc).1] at hp
    simp [show reg.hasP1 x.type = true from hp]
  · simp [hp, hs]

/-- A type with system time passes `require_p1_time` alone only if it has P1 time too: excluded by `hd`. -/
theorem requireSys_of_sysReq (hd : reg.Disjoint) {e : Eff} {N : List Nat}
    (h : sysReqOf reg e N = true) (h1 : e.requireP1 = true) : e.requireSys = true := by
  obtain ⟨t, ht, hs⟩ := List.any_eq_true.1 h
  have h3 := (mem_neededOf.1 ht).2.2
  cases h2 : e.requireSys
  · have hp : reg.hasP1 t = true := by simpa [h1, h2] using h3
    rw [hd t hp] at hs
    exact absurd hs (by simp)
  · rfl

theorem readOk_false_of_both (hd : reg.Disjoint) {e : Eff}
    (h1 : e.requireP1 = true) (h2 : e.requireSys = true) (x : Entry) : readOk reg rd log e x = false := by
  simp only [readOk, h1, h2, Bool.not_true, Bool.false_or]
  cases hp : reg.hasP1 x.type
  · simp
  · simp [hd _ hp]

theorem sliceN_sublist {α : Type} (n : Int) (l : List α) : (sliceN n l).Sublist l := by
  unfold sliceN
  split
  · exact List.take_sublist _ _
  · exact List.drop_sublist _ _

theorem stored_sublist (v : Variant) (e : Eff) (b : Bool) (s : List Entry) : (stored v e b s).Sublist s := by
  unfold stored
  split
  · exact .refl _
  · split
    · split
      · exact List.drop_sublist _ _
      · exact (List.drop_sublist _ _).trans (List.take_sublist _ _)
    · exact List.take_sublist _ _

/-- The stored selection does not depend on which types are read (`N`, i.e. on what the cache holds).  `N` enters
only through `sysReqOf`, and that is read in two places: by `indexFiltered` under `requireP1`, and by the branch of
`sliceApplied` that `Variant.current` does not take. -/
theorem selected_indep (hd : reg.Disjoint) (e : Eff) (N : List Nat) :
    selected Variant.current reg rd log e N = sel0 reg rd log e := by
  unfold sel0 selected
  rw [sysReqOf_nil]
  cases hb : sysReqOf reg e N
  · rfl
  · cases h1 : e.requireP1
    · -- without `requireP1` nothing reads `sysReqOf`
      simp [stream, indexFiltered, sliceApplied, Variant.current, h1]
    · -- P1 and system time both required: nothing is read either way
      have h2 := requireSys_of_sysReq hd hb h1
      have hf : ∀ l : List Entry, l.filter (readOk reg rd log e) = [] := by
        intro l
        simp [List.filter_eq_nil_iff, readOk_false_of_both hd h1 h2]
      simp [stream, sliceApplied, Variant.current, h1, h2, hf, List.sublist_nil.1 (stored_sublist _ _ _ [])]

theorem indexFiltered_eq (e : Eff) (b : Bool) :
    indexFiltered rd log e b = (rd.timeSel e.timeRange log).filter (fun x =>
      e.types.contains x.type && (!(e.requireP1 && !b && rd.dropsUntimed) || x.time.isSome)) := by
  cases hc : e.requireP1 && !b && rd.dropsUntimed <;>
    simp [indexFiltered, hc, List.filter_filter, Bool.and_comm]

theorem selected_sublist (v : Variant) (e : Eff) (N : List Nat) :
    (selected v reg rd log e N).Sublist
      ((indexFiltered rd log e (sysReqOf reg e N)).filter (readOk reg rd log e)) := by
  unfold selected stream
  refine (stored_sublist _ _ _ _).trans (List.Sublist.filter _ ?_)
  split
  · split
    · exact sliceN_sublist _ _
    · exact .refl _
  · exact .refl _

theorem mem_sel0 {e : Eff} {x : Entry}
    (h : x ∈ sel0 reg rd log e) : x.type ∈ e.types ∧ readOk reg rd log e x = true := by
  have h := (selected_sublist Variant.current e []).subset h
  rw [List.mem_filter, indexFiltered_eq, List.mem_filter, Bool.and_eq_true, List.contains_iff_mem] at h
  exact ⟨h.1.2.1, h.2⟩

/-- A type that the `require_*` / registry filtering removed from `needed_message_types` has no message
in the selection: the same conditions are tested again when a message is read. -/
theorem sel0_filter_nil {e : Eff} {N : List Nat}
    (hemp : (neededOf reg e N).isEmpty = true) {t : Nat} (ht : t ∈ N) :
    (sel0 reg rd log e).filter (fun x => x.type == t) = [] :=
  List.filter_eq_nil_iff.2 fun x hx hxt => by
    have := type_mem_neededOf (mem_sel0 hx).2 (eq_of_beq hxt ▸ ht)
    rw [List.isEmpty_iff.1 hemp] at this
    cases this

theorem sel0_nil_of_nothing {e : Eff}
    (hemp : (neededOf reg e e.types).isEmpty = true) : sel0 reg rd log e = [] :=
  List.eq_nil_iff_forall_not_mem.2 fun x hx =>
    List.filter_eq_nil_iff.1 (sel0_filter_nil hemp (mem_sel0 hx).1) x hx (beq_self_eq_true _)

/-- The entry `base t` after `time_align_data` over the requested types `ts` (each entry being `base u`). -/
def alignedEntry (reg : Reg) (e : Eff) (ts : List Nat) (base : Nat → MData) (t : Nat) : MData :=
  if e.align != Align.none && participates reg e.alignedTypes t then
    alignOne e.align (timeSetOf reg e.align e.alignedTypes (ts.map (fun u => (u, base u)))) t (base t)
  else base t

def numpyEntry (reg : Reg) (e : Eff) (t : Nat) (d : MData) : MData :=
  if e.numpy then toNumpy reg e.removeNan e.keepMessages e.returnIndex t d else d

/-- What a call with effective arguments `e` (parameters `p`) stores and returns for a type it reads. -/
def entryOf (reg : Reg) (rd : Reader) (log : List Entry) (e : Eff) (p : Params) (t : Nat) : MData :=
  numpyEntry reg e t (alignedEntry reg e e.types (baseEntry p e.returnIndex (sel0 reg rd log e)) t)

theorem alignDict_map (e : Eff) (ts : List Nat) (base : Nat → MData) :
    (if e.align != Align.none then alignDict reg e.align e.alignedTypes (ts.map (fun u => (u, base u)))
     else ts.map (fun u => (u, base u))) = ts.map (fun u => (u, alignedEntry reg e ts base u)) := by
  cases ha : e.align != Align.none
  · simp [alignedEntry, ha]
  · simp only [alignDict, alignedEntry, ha, List.map_map, Bool.true_and, if_true]
    apply List.map_congr_left
    intro u _
    simp only [Function.comp]
    split <;> rfl

theorem numpyDict_map (e : Eff) (N ts : List Nat) (f : Nat → MData) :
    numpyDict reg e true N (ts.map (fun u => (u, f u))) =
      ts.map (fun u => (u, if u ∈ N then toNumpy reg e.removeNan e.keepMessages e.returnIndex u (f u) else f u)) := by
  simp only [numpyDict, List.map_map]
  apply List.map_congr_left
  intro u _
  by_cases h : u ∈ N <;> simp [h]

theorem postDict_map (e : Eff) (N ts : List Nat) (f : Nat → MData) :
    postDict Variant.current reg e N (ts.map (fun u => (u, f u))) =
      ts.map (fun u => (u, if u ∈ N then numpyEntry reg e u (alignedEntry reg e ts f u) else alignedEntry reg e ts f u)) := by
  unfold postDict
  rw [alignDict_map]
  cases hn : e.numpy
  · simp [numpyEntry, hn]
  · simp [numpyEntry, hn, Variant.current, numpyDict_map]

theorem alignedEntry_fresh (e : Eff) (ts : List Nat) (p : Params) (t : Nat) :
    alignedEntry reg e ts (fun _ => MData.fresh p) t = MData.fresh p := by
  unfold alignedEntry
  split
  · cases e.align with
    | none => rfl
    | drop => simp [alignOne, MData.fresh, firstAt]
    | insert =>
      have hfl : (((ts.map fun u => (u, MData.fresh p)).filter fun td => participates reg e.alignedTypes td.1).map
          fun td => timesOf td.2.msgs).flatten = [] :=
        List.flatten_eq_nil_iff.2 fun l hl => by
          obtain ⟨td, htd, rfl⟩ := List.mem_map.1 hl
          obtain ⟨u, -, rfl⟩ := List.mem_map.1 (List.mem_filter.1 htd).1
          rfl
      simp only [alignOne, timeSetOf, hfl]
      rfl
  · rfl

theorem alignedEntry_noalign (e : Eff) (ts : List Nat) (base : Nat → MData) (t : Nat)
    (ha : (e.align != Align.none) = false) : alignedEntry reg e ts base t = base t := by
  simp [alignedEntry, ha]

/-- Alignment is part of the cache key together with the type set, so a call that aligns reads every requested
type or none. -/
def AllOrNone (e : Eff) (N : List Nat) : Prop := (e.align != Align.none) = true → N ≠ [] → N = e.types

/-- The "Nothing to read" shortcut of the code skips the alignment; the entries it returns are all empty,
and on those alignment is the identity. -/
theorem entryOf_nothing {e : Eff} (p : Params) {N : List Nat}
    (hemp : (neededOf reg e N).isEmpty = true)
    (hall : AllOrNone e N) {t : Nat} (ht : t ∈ N) :
    entryOf reg rd log e p t = numpyEntry reg e t (MData.fresh p) := by
  unfold entryOf
  by_cases ha : (e.align != Align.none) = true
  · -- an aligning call reads all its types or none: nothing at all is selected
    have hN := hall ha (List.ne_nil_of_mem ht)
    rw [sel0_nil_of_nothing (hN ▸ hemp), baseEntry_nil, alignedEntry_fresh]
  · rw [alignedEntry_noalign _ _ _ _ (by simpa using ha), baseEntry, sel0_filter_nil hemp ht, extend_nil]

/-- Writing a dict result back: the entries created by this call (`N`) become what the call returns for them; the
cached entries it used were that already. -/
theorem writeBack_setAll (c : Cache) {N ts : List Nat} (a E : Nat → MData) (hsub : ∀ t ∈ N, t ∈ ts)
    (hhit : ∀ t ∈ ts, t ∉ N → c t = some (E t)) :
    writeBack (c.setAll N a) (ts.map (fun u => (u, E u))) = c.setAll N E := by
  rw [writeBack_map]
  funext u
  by_cases hN : u ∈ N
  · simp [Cache.setAll_apply, hN, hsub u hN]
  · by_cases hu : u ∈ ts
    · simp [Cache.setAll_apply, hN, hu, hhit u hu hN]
    · simp [Cache.setAll_apply, hN, hu]

theorem alignedEntry_congr (e : Eff) {ts : List Nat} {f f' : Nat → MData} (h : ∀ u ∈ ts, f u = f' u)
    {t : Nat} (ht : t ∈ ts) : alignedEntry reg e ts f t = alignedEntry reg e ts f' t := by
  unfold alignedEntry
  rw [List.map_congr_left (fun u hu => by rw [h u hu]), h t ht]

/-- The dict-returning path in closed form, when the cached entries it uses (requested types outside
`N`) are what this call would read itself: every requested type gets `entryOf`, nothing raises, no
other cache entry changes. -/
theorem readDict_current (hd : reg.Disjoint) (dc0 : Cache)
    (out : Cache → Cache) (e : Eff) (p : Params) (N : List Nat)
    (hsub : ∀ t ∈ N, t ∈ e.types)
    (hhit : ∀ t ∈ e.types, t ∉ N → dc0 t = some (entryOf reg rd log e p t))
    (hall : AllOrNone e N) :
    readDict Variant.current reg rd log dc0 out e p N =
      .ok (out (dc0.setAll N (entryOf reg rd log e p)),
           Result.dict (e.types.map (fun t => (t, entryOf reg rd log e p t)))) := by
  unfold readDict
  rw [createEntries_eq, lookupAll_setAll dc0 N e.types _ _ hhit]
  simp only
  by_cases hemp : (neededOf reg e N).isEmpty = true
  · simp only [hemp, if_true]
    cases hn : e.numpy
    · -- the entries just created are returned and cached as they are
      have hE : ∀ t ∈ N, MData.fresh p = entryOf reg rd log e p t := fun t ht => by simp [entryOf_nothing p hemp hall ht, numpyEntry, hn]
      simp only [Variant.current, Bool.and_false, Bool.false_eq_true, if_false]
      rw [Cache.setAll_congr dc0 hE, List.map_congr_left (g := fun u => (u, entryOf reg rd log e p u)) ?_]
      intro u _
      split
      · rw [hE u ‹_›]
      · rfl
    · simp only [Variant.current, Bool.and_self, if_true]
      rw [numpyDict_map, List.map_congr_left (g := fun u => (u, entryOf reg rd log e p u)) ?_,
        writeBack_setAll _ _ _ hsub hhit]
      intro u _
      by_cases hu : u ∈ N
      · simp only [hu, if_true, entryOf_nothing p hemp hall hu, numpyEntry, hn]
      · simp only [hu, if_false]
  · simp only [hemp, Bool.false_eq_true, if_false]
    -- the entries just created, `fun _ => MData.fresh p`, are `baseEntry … []`: the storing loop starts with `l0 = []`
    rw [← baseEntry_nil p e.returnIndex, storeAll_newOnly Variant.current rfl, List.nil_append, selected_indep hd]
    simp only
    rw [lookupAll_setAll dc0 N e.types _ _ hhit]
    simp only
    rw [postDict_map, List.map_congr_left (g := fun u => (u, entryOf reg rd log e p u)) ?_,
      writeBack_setAll _ _ _ hsub hhit]
    intro u hu
    congr 1
    by_cases ha : (e.align != Align.none) = true
    · -- an aligning call reads every requested type: all entries aligned are those of this call
      have hN := hall ha (fun h => by rw [h, neededOf_nil] at hemp; exact hemp rfl)
      subst hN
      rw [alignedEntry_congr e (f' := baseEntry p e.returnIndex (sel0 reg rd log e)) (fun t ht => if_pos ht) hu]
      simp only [hu, if_true, entryOf]
    · simp only [Bool.not_eq_true] at ha
      rw [alignedEntry_noalign _ _ _ _ ha]
      unfold entryOf
      split
      · rw [alignedEntry_noalign _ _ _ _ ha]
      · rfl

/-- The effective arguments of a (not in-order) call, recovered from its `params` and type set.  (`eff`, of the
model, computes them from the arguments of the call; `effOf` below takes the type set from the parameters of a
cached entry too.) -/
def effP (p : Params) (T : List Nat) : Eff :=
  { types := T, timeRange := p.timeRange, srcs := p.sourceIds, maxMessages := p.maxMessages,
    requireP1 := p.requireP1, requireSys := p.requireSys, returnIndex := p.returnIndex,
    numpy := p.returnNumpy, keepMessages := p.keepMessages, removeNan := p.removeNan,
    align := p.align, alignedTypes := p.alignedTypes }

theorem effP_mkParams (reg : Reg) (rd : Reader) (log : List Entry) (a : Args) (h : a.inOrder = false) :
    effP (mkParams Variant.current a (eff reg rd log a)) (eff reg rd log a).types = eff reg rd log a := by
  simp [effP, mkParams, eff, Variant.current, h]

theorem mkParams_types (a : Args) (e : Eff) :
    (mkParams Variant.current a e).messageTypes = if e.across then some e.types else none := by
  simp [mkParams, Variant.current]

@[simp] theorem convert_params (a : Bool) (t : Nat) (d : MData) : (convert reg a t d).params = d.params := by
  unfold convert; split <;> rfl

@[simp] theorem dropMsgs_params (a : Bool) (d : MData) : (dropMsgs a d).params = d.params := by
  unfold dropMsgs; split <;> rfl

@[simp] theorem dropIdx_params (a : Bool) (d : MData) : (dropIdx a d).params = d.params := by
  unfold dropIdx; split <;> rfl

@[simp] theorem toNumpy_params (a b c : Bool) (t : Nat) (d : MData) :
    (toNumpy reg a b c t d).params = d.params := by
  unfold toNumpy
  split
  · rfl
  · split <;> simp

@[simp] theorem alignOne_params (mode : Align) (ts : List Int) (t : Nat) (d : MData) :
    (alignOne mode ts t d).params = d.params := by
  cases mode <;> rfl

@[simp] theorem numpyEntry_params (e : Eff) (t : Nat) (d : MData) : (numpyEntry reg e t d).params = d.params := by
  unfold numpyEntry; split <;> simp

@[simp] theorem alignedEntry_params (e : Eff) (ts : List Nat) (base : Nat → MData) (t : Nat) :
    (alignedEntry reg e ts base t).params = (base t).params := by
  unfold alignedEntry; split <;> simp

theorem entryOf_params (e : Eff) (p : Params) (t : Nat) :
    (entryOf reg rd log e p t).params = p := by
  simp [entryOf, baseEntry, MData.fresh]

/-- Without `max_messages` nothing is cut and nothing counted: the selection is the filtered index, filtered by
`readOk`, and the requested type set enters it only through the type filter of the index. -/
theorem sel0_filter_type (e : Eff) (t : Nat)
    (hm : e.maxMessages = none) (ht : t ∈ e.types) :
    (sel0 reg rd log e).filter (fun x => x.type == t) =
      (rd.timeSel e.timeRange log).filter (fun x => x.type == t &&
        (readOk reg rd log e x && (!(e.requireP1 && rd.dropsUntimed) || x.time.isSome))) := by
  simp only [sel0, selected, stored, stream, sliceApplied, sysReqOf_nil, indexFiltered_eq, hm,
    Option.isSome_none, Bool.false_and, Bool.false_eq_true, if_false, List.filter_filter]
  apply List.filter_congr
  intro x _
  cases hx : x.type == t
  · simp
  · simp [eq_of_beq hx, ht]

/-- Without `max_messages` and alignment, the entry of a type does not depend on which other types are requested
with it: such a call treats each type on its own (`sel0_filter_type`), which is why its key carries no type set. -/
theorem entryOf_indep (p : Params) (T T' : List Nat) (t : Nat)
    (hac : (effP p T).across = false) (ht : t ∈ T) (ht' : t ∈ T') :
    entryOf reg rd log (effP p T) p t = entryOf reg rd log (effP p T') p t := by
  simp only [Eff.across, effP, Bool.or_eq_false_iff, Option.isSome_eq_false_iff, Option.isNone_iff_eq_none] at hac
  unfold entryOf
  rw [alignedEntry_noalign (effP p T) _ _ t hac.2, alignedEntry_noalign (effP p T') _ _ t hac.2, baseEntry,
    baseEntry, sel0_filter_type (effP p T) t hac.1 ht, sel0_filter_type (effP p T') t hac.1 ht']
  rfl

/-- The call a cached entry of type `t` with parameters `p` stands for: with the stored type set when the
parameters carry one (across-types calls); otherwise the type set does not matter (`entryOf_indep`) and
`[t]` is taken. -/
def effOf (p : Params) (t : Nat) : Eff := effP p (p.messageTypes.getD [t])

theorem entryOf_effOf {e : Eff} {p : Params} (heff : effP p e.types = e)
    (hmt : p.messageTypes = if e.across then some e.types else none) {t : Nat} (ht : t ∈ e.types) :
    entryOf reg rd log (effOf p t) p t = entryOf reg rd log e p t := by
  unfold effOf
  rw [hmt]
  cases hac : e.across
  · have h : (effP p e.types).across = false := heff.symm ▸ hac
    exact (entryOf_indep p [t] e.types t h List.mem_cons_self ht).trans (by rw [heff])
  · exact congrArg (entryOf reg rd log · p t) heff

/-- Every cached entry is what the call its parameters stand for reads for that type. -/
def Inv (reg : Reg) (rd : Reader) (log : List Entry) (c : Cache) : Prop :=
  ∀ t d, c t = some d → d = entryOf reg rd log (effOf d.params t) d.params t

theorem Inv.empty (reg : Reg) (rd : Reader) (log : List Entry) : Inv reg rd log Cache.empty :=
  fun _ _ h => nomatch h

theorem Inv.setAll {c : Cache} (hinv : Inv reg rd log c) {N : List Nat} {f : Nat → MData}
    (h : ∀ t ∈ N, f t = entryOf reg rd log (effOf (f t).params t) (f t).params t) :
    Inv reg rd log (c.setAll N f) := by
  intro t d hcd
  by_cases ht : t ∈ N
  · simp only [Cache.setAll_apply, ht, if_true, Option.some.injEq] at hcd
    exact hcd ▸ h t ht
  · simp only [Cache.setAll_apply, ht, if_false] at hcd
    exact hinv t d hcd

/-- Which types a call reads (`N`): all requested types when an across-types result is incomplete, the
misses otherwise.  The other requested types are cached with exactly these parameters; and an aligning
call (its type set is part of the key) reads every requested type or none. -/
theorem needed0Of_current {c : Cache} {p : Params} {e : Eff} {N : List Nat}
    (hN : needed0Of Variant.current false e (missesOf c p e.types) = N) :
    (∀ t ∈ N, t ∈ e.types) ∧ (∀ t ∈ e.types, t ∉ N → ∃ d, c t = some d ∧ d.params = p) ∧
    AllOrNone e N := by
  subst hN
  have hmiss : ∀ t ∈ e.types, t ∉ missesOf c p e.types → ∃ d, c t = some d ∧ d.params = p := fun t ht h => by
    rw [missesOf, List.mem_filter, not_and] at h
    cases hc : c t <;> simpa [hc] using h ht
  simp only [needed0Of, Variant.current, Bool.false_eq_true, if_false, Bool.true_and]
  split
  · exact ⟨fun _ h => h, fun t ht hn => absurd ht hn, fun _ _ => rfl⟩
  · rename_i hb
    exact ⟨fun t ht => (List.mem_filter.1 ht).1, hmiss, fun ha hne =>
      absurd (List.isEmpty_iff.1 (by simpa [Eff.across, ha] using hb)) hne⟩

/-- The value of a call on `Variant.current`, as a function of the call alone. -/
def resultOf (reg : Reg) (rd : Reader) (log : List Entry) (a : Args) : Result :=
  if a.inOrder then
    Result.ordered (extend (eff reg rd log a).returnIndex (MData.fresh (mkParams Variant.current a (eff reg rd log a)))
      (sel0 reg rd log (eff reg rd log a)))
  else
    Result.dict ((eff reg rd log a).types.map (fun t =>
      (t, entryOf reg rd log (eff reg rd log a) (mkParams Variant.current a (eff reg rd log a)) t)))

theorem read_current (hd : reg.Disjoint) (c : Cache) (a : Args)
    (hinv : Inv reg rd log c) :
    ∃ c', read Variant.current reg rd log c a = .ok (c', resultOf reg rd log a) ∧ Inv reg rd log c' := by
  unfold read resultOf
  by_cases hio : a.inOrder = true
  · simp only [hio, if_true]
    refine ⟨c, ?_, hinv⟩
    unfold readOrdered
    split
    · rw [sel0_nil_of_nothing ‹_›, extend_nil]
    · rw [storeOrdered_ok _ _ _ rfl, selected_indep hd]
  · simp only [Bool.not_eq_true] at hio
    simp only [hio, Bool.false_eq_true, if_false]
    have heff := effP_mkParams reg rd log a hio
    have hmt := mkParams_types a (eff reg rd log a)
    generalize mkParams Variant.current a (eff reg rd log a) = p at *
    generalize eff reg rd log a = e at *
    by_cases hic : a.ignoreCache = true
    · simp only [hic, if_true]
      exact ⟨c, readDict_current hd Cache.empty (fun _ => c) e p e.types (fun t h => h)
        (fun t h1 h2 => absurd h1 h2) (fun _ _ => rfl), hinv⟩
    · simp only [hic, Bool.false_eq_true, if_false]
      generalize hN : needed0Of Variant.current false e (missesOf c p e.types) = N
      obtain ⟨hsub, hmiss, hall⟩ := needed0Of_current hN
      have hhit : ∀ t ∈ e.types, t ∉ N → c t = some (entryOf reg rd log e p t) := by
        intro t ht hn
        obtain ⟨d, hcd, hdp⟩ := hmiss t ht hn
        rw [hcd, hinv t d hcd, hdp, entryOf_effOf heff hmt ht]
      refine ⟨_, readDict_current hd c id e p N hsub hhit hall, Inv.setAll hinv fun t ht => ?_⟩
      rw [entryOf_params, entryOf_effOf heff hmt (hsub t ht)]

theorem readFresh_current (hd : reg.Disjoint) (a : Args) :
    readFresh Variant.current reg rd log a = .ok (resultOf reg rd log a) := by
  obtain ⟨c', h1, _⟩ := read_current hd Cache.empty a (Inv.empty reg rd log)
  simp [readFresh, h1, Except.map]

theorem runHist_current (hd : reg.Disjoint) (h : List Args)
    (c : Cache) (hinv : Inv reg rd log c) :
    runHist Variant.current reg rd log c h = h.map (fun a => .ok (resultOf reg rd log a)) := by
  induction h generalizing c with
  | nil => rfl
  | cons b bs ih =>
    obtain ⟨c', h1, hc'⟩ := read_current hd c b hinv
    simp only [runHist, h1, List.map_cons, ih c' hc']

theorem lastOf_cons_of_ok {v : Variant} {c c' : Cache} {a : Args} {r : Result} {as : List Args}
    (h : read v reg rd log c a = .ok (c', r)) (hne : as ≠ []) :
    lastOf v reg rd log c (a :: as) = lastOf v reg rd log c' as := by
  cases as with
  | nil => exact absurd rfl hne
  | cons b bs => rw [lastOf, h]

theorem lastOf_current (hd : reg.Disjoint) (h : List Args) (a : Args)
    (c : Cache) (hinv : Inv reg rd log c) :
    lastOf Variant.current reg rd log c (h ++ [a]) = some (.ok (resultOf reg rd log a)) := by
  induction h generalizing c with
  | nil =>
    obtain ⟨c', h1, _⟩ := read_current hd c a hinv
    simp [lastOf, h1, Except.map]
  | cons b bs ih =>
    obtain ⟨c', h1, hc'⟩ := read_current hd c b hinv
    rw [List.cons_append, lastOf_cons_of_ok h1 (List.append_ne_nil_of_right_ne_nil bs (List.cons_ne_nil a []))]
    exact ih c' hc'

theorem length_sliceN_le {α : Type} (n : Int) (l : List α) : (sliceN n l).length ≤ n.natAbs := by
  unfold sliceN
  split
  · simp only [List.length_take]; omega
  · simp only [List.length_drop]; omega

theorem extend_fresh (p : Params) (ri : Bool) (l : List Entry) : extend ri (MData.fresh p) l = specData p ri l := by
  cases ri <;> simp [extend, MData.fresh, specData]

theorem baseEntry_eq_specData (p : Params) (ri : Bool) (sel : List Entry) :
    baseEntry p ri sel = fun t => specData p ri (sel.filter fun x => x.type == t) :=
  funext fun _ => extend_fresh ..

theorem filter_readOk_indexFiltered (e : Eff) :
    (indexFiltered rd log e false).filter (readOk reg rd log e) = specStream reg rd log e := by
  simp [indexFiltered, specStream]

theorem stored_unsliced (e : Eff) (n : Int) (hm : e.maxMessages = some n) (s : List Entry) :
    stored Variant.current e false s = sliceN n s := by
  simp only [stored, hm, Variant.current, sliceN]
  by_cases hn : n < 0
  · simp [hn, Int.not_le.2 hn]
  · have h0 : 0 ≤ n := by omega
    simp [hn, h0, show n.natAbs = n.toNat by omega]

/-- `hs`, `hk`: for N < 0 the index is cut to its last |N| entries before anything is tested at read time, so the
cut counts entries the read loop would skip, those of other source identifiers and of unregistered types; the
hypotheses say there are none. -/
theorem sel0_eq_spec (e : Eff)
    (hs : ∀ n, e.maxMessages = some n → n < 0 → ∀ x ∈ rd.timeSel e.timeRange log, x.src ∈ rd.available log)
    (hk : ∀ t ∈ e.types, reg.known t = true) :
    sel0 reg rd log e = specSelected reg rd log e := by
  unfold sel0 selected specSelected
  rw [sysReqOf_nil, ← filter_readOk_indexFiltered]
  cases hm : e.maxMessages with
  | none => simp [stored, stream, sliceApplied, hm]
  | some n =>
    cases hsl : sliceApplied Variant.current rd log e false
    · simp only [stream, hsl, Bool.false_eq_true, if_false]
      exact stored_unsliced e n hm _
    · -- the index was cut (N ≤ 0 and nothing to test at read time): every entry left is read
      simp only [stream, stored, hsl, hm, if_true, Bool.not_true, Bool.and_false, Bool.false_eq_true, if_false]
      simp only [sliceApplied, hm, Variant.current, Option.isSome_some, Bool.true_and, if_true, Bool.and_eq_true,
        Bool.not_eq_true', beq_iff_eq, Bool.not_true, Bool.false_or, nonPos, decide_eq_true_eq] at hsl
      obtain ⟨⟨⟨h1, h2⟩, h3⟩, h4⟩ := hsl
      by_cases hz : n = 0
      · simp [hz, sliceN]
      have hall : ∀ x ∈ indexFiltered rd log e false, readOk reg rd log e x = true := by
        intro x hx
        rw [indexFiltered_eq, List.mem_filter, Bool.and_eq_true, List.contains_iff_mem] at hx
        simp [readOk, requestedSrcs, h1, h2, h3, hk _ hx.2.1, hs n hm (by omega) x hx.1]
      rw [List.filter_eq_self.2 hall, List.filter_eq_self.2 fun x hx => hall x ((sliceN_sublist n _).subset hx)]
      exact List.take_of_length_le (length_sliceN_le n _)

theorem resultOf_eq_spec (a : Args)
    (hs : ∀ n, a.maxMessages = some n → n < 0 → ∀ x ∈ rd.timeSel a.timeRange log, x.src ∈ rd.available log)
    (hk : ∀ t ∈ (eff reg rd log a).types, reg.known t = true) :
    resultOf reg rd log a = freshSpec reg rd log a := by
  have hsel := sel0_eq_spec (eff reg rd log a) hs hk
  unfold resultOf freshSpec
  by_cases hio : a.inOrder = true
  · simp only [hio, if_true]
    rw [← hsel, extend_fresh]
    rfl
  · simp only [hio, Bool.false_eq_true, if_false]
    congr 1
    rw [postDict_map]
    apply List.map_congr_left
    intro t ht
    simp only [entryOf, ← hsel, ht, if_true, baseEntry_eq_specData]
    rfl

end FeVerif.Loader
