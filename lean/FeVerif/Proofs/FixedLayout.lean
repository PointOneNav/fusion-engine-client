/-
C02 — what the Bool-valued table checkers mean (`packedB_sound`, `memberShapeB_sound`, `flatB_sound`, `nodupB_sound`;
`shapesB`, `floatsAlignedB` and `keysDistinctB` have no lemma of their own: each is a `List.all` or a conjunction and is
unfolded where Props/C02 uses it), the running offsets of a descriptor, and the generic fixed-layout codec.  The codec lemmas go by functional
induction over `buildFixed`/`parseFixed` with the result equation `h` in scope: `all_goals cases h` disposes of the
failing branches and names the output in the others.  Field isolation when reading is field isolation when writing
plus the two round trips.
-/
import FeVerif.Model.FixedLayout

namespace FeVerif.FixedLayout

theorem tiledFrom_sum {p e : Nat} {ms : List Member} (h : tiledFrom p ms = some e) :
    p + (ms.map (·.size)).sum = e := by
  fun_induction tiledFrom p ms with
  | case1 => simpa using h
  | case2 p m ms hc ih =>
    have := ih h
    simp only [List.map_cons, List.sum_cons]; omega
  | case3 => cases h

theorem tiledFrom_bounds {p e : Nat} {ms : List Member} (h : tiledFrom p ms = some e) :
    ∀ m ∈ ms, p ≤ m.offset ∧ 0 < m.size := by
  fun_induction tiledFrom p ms with
  | case1 => intro m hm; cases hm
  | case2 p a ms hc ih =>
    intro m hm
    rcases List.mem_cons.1 hm with rfl | hm
    · exact ⟨Nat.le_of_eq hc.1.symm, hc.2⟩
    · exact ⟨Nat.le_trans (Nat.le_add_right _ _) (ih h m hm).1, (ih h m hm).2⟩
  | case3 => cases h

theorem tiledFrom_pairwise {p e : Nat} {ms : List Member} (h : tiledFrom p ms = some e) :
    ms.Pairwise (fun a b => a.offset + a.size ≤ b.offset) := by
  fun_induction tiledFrom p ms with
  | case1 => exact List.Pairwise.nil
  | case2 p a ms hc ih =>
    refine List.Pairwise.cons (fun b hb => ?_) (ih h)
    have := (tiledFrom_bounds h b hb).1
    omega
  | case3 => cases h

theorem tiledFrom_contiguous {p e : Nat} {ms : List Member} (h : tiledFrom p ms = some e) :
    ∀ i, (hi : i < ms.length) → ms[i].offset = p + ((ms.take i).map (·.size)).sum := by
  fun_induction tiledFrom p ms with
  | case1 => intro i hi; cases hi
  | case2 p a ms hc ih =>
    intro i hi
    cases i with
    | zero => simp [hc.1]
    | succ j =>
      have := ih h j (Nat.lt_of_succ_lt_succ hi)
      simp only [List.getElem_cons_succ, List.take_succ_cons, List.map_cons, List.sum_cons]
      omega
  | case3 => cases h

theorem packedB_iff {s : CxxStruct} :
    packedB s = true ↔ tiledFrom 0 s.members = some s.sizeof ∧ s.sizeof % 4 = 0 ∧ s.alignof = 4 := by
  simp only [packedB, Bool.and_eq_true, beq_iff_eq, and_assoc]

theorem packedB_sound {s : CxxStruct} (h : packedB s = true) : Packed s := by
  obtain ⟨ht, h4, ha⟩ := packedB_iff.1 h
  exact ⟨tiledFrom_pairwise ht, fun i hi => (tiledFrom_contiguous ht i hi).trans (Nat.zero_add _),
    fun m hm => (tiledFrom_bounds ht m hm).2, (Nat.zero_add _).symm.trans (tiledFrom_sum ht), h4, ha⟩

theorem totalWidth_cons (f : Field) (fs : List Field) : totalWidth (f :: fs) = f.width + totalWidth fs := by
  simp [totalWidth]

@[simp] theorem totalWidth_nil : totalWidth [] = 0 := rfl

theorem offsetOf_zero (d : List Field) : offsetOf d 0 = 0 := by simp [offsetOf]

theorem offsetOf_succ (f : Field) (fs : List Field) (j : Nat) :
    offsetOf (f :: fs) (j + 1) = f.width + offsetOf fs j := by
  simp [offsetOf, totalWidth_cons]

theorem offsetOf_add_width_le (d : List Field) (i : Nat) (hi : i < d.length) :
    offsetOf d i + d[i].width ≤ totalWidth d := by
  induction d generalizing i with
  | nil => cases hi
  | cons f fs ih =>
    cases i with
    | zero => simp [offsetOf_zero, totalWidth_cons]
    | succ j =>
      have := ih j (by simpa using hi)
      simp only [offsetOf_succ, totalWidth_cons, List.getElem_cons_succ]
      omega

theorem offsetsOf_length (d : List Field) (p : Nat) : (offsetsOf d p).length = d.length := by
  induction d generalizing p with
  | nil => rfl
  | cons f fs ih => simp [offsetsOf, ih]

theorem offsetsOf_getElem (d : List Field) (p i : Nat) (hi : i < d.length) :
    (offsetsOf d p)[i]'(by rw [offsetsOf_length]; exact hi) = (p + offsetOf d i, d[i].width) := by
  induction d generalizing p i with
  | nil => cases hi
  | cons f fs ih =>
    cases i with
    | zero => simp [offsetsOf, offsetOf_zero]
    | succ j =>
      simp only [offsetsOf, List.getElem_cons_succ, offsetOf_succ]
      rw [ih (p + f.width) j (by simpa using hi)]
      simp; omega

theorem totalWidth_toField (ms : List Member) : totalWidth (ms.map Member.toField) = (ms.map (·.size)).sum := by
  rw [totalWidth, List.map_map]; rfl

theorem totalWidth_of_tiled {e : Nat} {ms : List Member} (h : tiledFrom 0 ms = some e) :
    totalWidth (ms.map Member.toField) = e := by
  rw [totalWidth_toField, ← tiledFrom_sum h, Nat.zero_add]

theorem offsetOf_descriptor_of_tiled {e : Nat} {ms : List Member} (h : tiledFrom 0 ms = some e)
    (i : Nat) (hi : i < ms.length) : offsetOf (ms.map Member.toField) i = ms[i].offset := by
  rw [tiledFrom_contiguous h i hi, offsetOf, ← List.map_take, totalWidth_toField, Nat.zero_add]

theorem offsetsOf_of_tiled {e : Nat} {ms : List Member} (h : tiledFrom 0 ms = some e) :
    offsetsOf (ms.map Member.toField) 0 = ms.map (fun m => (m.offset, m.size)) := by
  refine List.ext_getElem (by rw [offsetsOf_length, List.length_map, List.length_map]) fun i h1 h2 => ?_
  rw [List.length_map] at h2
  rw [offsetsOf_getElem _ _ _ (by rwa [List.length_map]), offsetOf_descriptor_of_tiled h i h2, Nat.zero_add]
  simp [Member.toField]

theorem overwrite_length (bs : Bytes) (off : Nat) (new : Bytes) (h : off + new.length ≤ bs.length) :
    (overwrite bs off new).length = bs.length := by
  simp [overwrite]; omega

theorem overwrite_zero (bs new : Bytes) : overwrite bs 0 new = new ++ bs.drop new.length := by
  simp [overwrite]

theorem overwrite_append_left (v r : Bytes) (o : Nat) (new : Bytes) :
    overwrite (v ++ r) (v.length + o) new = v ++ overwrite r o new := by
  simp only [overwrite]
  rw [List.take_length_add_append, show v.length + o + new.length = v.length + (o + new.length) by omega,
    List.drop_length_add_append]
  simp

theorem overwrite_take_append_drop (bs : Bytes) (w off : Nat) (new : Bytes) (h : off + new.length ≤ w) :
    overwrite (bs.take w) off new ++ bs.drop w = overwrite bs off new := by
  simp only [overwrite, List.append_assoc, List.take_take, List.drop_take, Nat.min_eq_left (show off ≤ w by omega)]
  -- what is left: the tail after `w` is the rest of the tail after the overwritten bytes
  rw [show bs.drop w = (bs.drop (off + new.length)).drop (w - (off + new.length)) by
    rw [List.drop_drop]; congr 1; omega, List.take_append_drop]

theorem overwrite_getElem?_outside (bs : Bytes) (off : Nat) (new : Bytes) (k : Nat)
    (h : off + new.length ≤ bs.length) (hk : k < off ∨ off + new.length ≤ k) :
    (overwrite bs off new)[k]? = bs[k]? := by
  simp only [overwrite]
  rcases hk with hk | hk
  · rw [List.append_assoc, List.getElem?_append_left (by simp; omega), List.getElem?_take_of_lt hk]
  · rw [List.getElem?_append_right (by simp; omega), List.getElem?_drop]
    simp only [List.length_append, List.length_take]
    congr 1; omega

theorem overwrite_slice (bs : Bytes) (off : Nat) (new : Bytes) (h : off ≤ bs.length) :
    slice (overwrite bs off new) off new.length = new := by
  simp only [slice, overwrite, List.append_assoc]
  rw [List.drop_append_of_le_length (by simp; omega), List.drop_take_self]; simp

theorem parseFixed_isSome (d : List Field) (bs : Bytes) :
    (parseFixed d bs).isSome = true ↔ totalWidth d ≤ bs.length := by
  fun_induction parseFixed d bs with
  | case1 => simp
  | case2 f fs bs hlen => simp [totalWidth_cons]; omega
  | case3 f fs bs hlen hr ih | case4 f fs bs hlen r hr ih =>
    rw [hr, List.length_drop] at ih
    simp [totalWidth_cons] at ih ⊢; omega

theorem parse_build {d : List Field} {vs : List (Nat × Bytes)} {bs : Bytes}
    (h : buildFixed d vs = some bs) (tail : Bytes) : parseFixed d (bs ++ tail) = some vs := by
  fun_induction buildFixed d vs generalizing bs
  all_goals cases h
  · rfl
  · rename_i f fs n v vs hc r hr ih
    rw [parseFixed, List.append_assoc, ← hc.2, List.drop_left, List.take_left, ih hr, hc.1, if_neg]
    rw [List.length_append]; exact Nat.not_lt.2 (Nat.le_add_right _ _)

theorem build_parse {d : List Field} {bs : Bytes} {vs : List (Nat × Bytes)}
    (h : parseFixed d bs = some vs) : buildFixed d vs = some (bs.take (totalWidth d)) := by
  fun_induction parseFixed d bs generalizing vs
  all_goals cases h
  · rfl
  · rename_i f fs bs hlen r hr ih
    rw [buildFixed, if_pos ⟨rfl, List.length_take_of_le (Nat.le_of_not_lt hlen)⟩, ih hr, totalWidth_cons,
      List.take_add]

theorem buildFixed_length {d : List Field} {vs : List (Nat × Bytes)} {bs : Bytes}
    (h : buildFixed d vs = some bs) : bs.length = totalWidth d ∧ vs.length = d.length := by
  fun_induction buildFixed d vs generalizing bs
  all_goals cases h
  · exact ⟨rfl, rfl⟩
  · rename_i f fs n v vs hc r hr ih
    rw [List.length_append, totalWidth_cons, hc.2, (ih hr).1, List.length_cons, List.length_cons, (ih hr).2]
    exact ⟨rfl, rfl⟩

theorem parseFixed_length {d : List Field} {bs : Bytes} {vs : List (Nat × Bytes)}
    (h : parseFixed d bs = some vs) : vs.length = d.length :=
  (buildFixed_length (build_parse h)).2

theorem parseFixed_getElem? {d : List Field} {bs : Bytes} {vs : List (Nat × Bytes)}
    (h : parseFixed d bs = some vs) (i : Nat) (hi : i < d.length) :
    vs[i]? = some (d[i].name, slice bs (offsetOf d i) d[i].width) := by
  fun_induction parseFixed d bs generalizing vs i
  all_goals cases h
  · cases hi
  · rename_i f fs bs hlen r hr ih
    cases i with
    | zero => rw [offsetOf_zero]; rfl
    | succ j =>
      rw [List.getElem?_cons_succ, ih hr j (Nat.lt_of_succ_lt_succ hi), offsetOf_succ, slice, slice, List.drop_drop]
      rfl

theorem build_set (d : List Field) (vs : List (Nat × Bytes)) (bs : Bytes) (i : Nat) (hi : i < d.length)
    (new : Bytes) (hn : new.length = d[i].width) (hb : buildFixed d vs = some bs) :
    buildFixed d (vs.set i (d[i].name, new)) = some (overwrite bs (offsetOf d i) new) := by
  fun_induction buildFixed d vs generalizing bs i
  all_goals cases hb
  · cases hi
  · rename_i f fs n v vs hc r hr ih
    cases i with
    | zero =>
      rw [List.set_cons_zero, buildFixed, if_pos ⟨rfl, hn⟩, hr, offsetOf_zero, overwrite_zero, hn,
        List.getElem_cons_zero, ← hc.2, List.drop_left]
    | succ j =>
      simp only [List.getElem_cons_succ] at hn ⊢
      rw [List.set_cons_succ, buildFixed, if_pos hc, ih _ j (Nat.lt_of_succ_lt_succ hi) hn hr, offsetOf_succ, ← hc.2,
        overwrite_append_left]

theorem parse_overwrite (d : List Field) (bs : Bytes) (vs : List (Nat × Bytes)) (i : Nat) (hi : i < d.length)
    (new : Bytes) (hn : new.length = d[i].width) (hp : parseFixed d bs = some vs) :
    parseFixed d (overwrite bs (offsetOf d i) new) = some (vs.set i (d[i].name, new)) := by
  have := parse_build (build_set d vs _ i hi new hn (build_parse hp)) (bs.drop (totalWidth d))
  rwa [overwrite_take_append_drop _ _ _ _ (hn ▸ offsetOf_add_width_le d i hi)] at this

theorem isolation_of_tiled {e : Nat} {ms : List Member} (h : tiledFrom 0 ms = some e) (bs : Bytes)
    (vs : List (Nat × Bytes)) (i : Nat) (hi : i < ms.length) (new : Bytes) (hn : new.length = ms[i].size)
    (hp : parseFixed (ms.map Member.toField) bs = some vs) :
    parseFixed (ms.map Member.toField) (overwrite bs ms[i].offset new) = some (vs.set i (ms[i].name, new)) := by
  have hi' : i < (ms.map Member.toField).length := by simpa using hi
  have ho := offsetOf_descriptor_of_tiled h i hi
  have := parse_overwrite (ms.map Member.toField) bs vs i hi' new (by simpa [Member.toField] using hn) hp
  rw [ho] at this
  simpa [Member.toField] using this

theorem nodupB_sound {l : List Nat} (h : nodupB l = true) : l.Nodup := by
  induction l with
  | nil => exact List.nodup_nil
  | cons a l ih =>
    simp only [nodupB, Bool.and_eq_true, Bool.not_eq_true', List.contains_eq_mem, decide_eq_false_iff_not] at h
    exact List.nodup_cons.2 ⟨h.1, ih h.2⟩

theorem findStruct_some {tbl : List CxxStruct} {code : Nat} {t : CxxStruct} (h : findStruct tbl code = some t) :
    t ∈ tbl ∧ t.name = code := by
  exact ⟨List.mem_of_find?_eq_some h, by simpa using List.find?_some h⟩

/-- The part of `memberShapeB` that the theorems state.  Not carried over: the element sizes allowed for each scalar
kind, that a `bytes` member has one-byte unsigned elements, and that only struct-typed elements name a struct. -/
structure MemberShape (tbl : List CxxStruct) (m : Member) : Prop where
  scalar : m.arrayLen = 0 → m.size = m.elemSize ∧ m.kind = m.elemKind
  array : m.arrayLen ≠ 0 → m.size = m.arrayLen * m.elemSize ∧ (m.kind = .array ∨ m.kind = .bytes)
  nested : m.elemKind = .struct → ∃ t ∈ tbl, t.name = m.sub ∧ t.sizeof = m.elemSize
  elemScalar : m.elemKind ≠ .array ∧ m.elemKind ≠ .bytes

theorem memberShapeB_sound {tbl : List CxxStruct} {m : Member} (h : memberShapeB tbl m = true) :
    MemberShape tbl m := by
  simp only [memberShapeB, Bool.and_eq_true] at h
  obtain ⟨⟨⟨h1, h2⟩, h3⟩, _⟩ := h
  refine ⟨?_, ?_, ?_, ?_⟩
  · intro h0
    rw [if_pos h0] at h1
    simpa using h1
  · intro h0
    rw [if_neg h0] at h1
    simp only [Bool.and_eq_true, Bool.or_eq_true, beq_iff_eq] at h1
    exact ⟨h1.1, h1.2.imp id (fun x => x.1.1)⟩
  · intro hk
    rw [if_pos hk] at h2
    split at h2
    · rename_i t ht
      exact ⟨t, (findStruct_some ht).1, (findStruct_some ht).2, by simpa using h2⟩
    · cases h2
  · simpa using h3

theorem flatB_sound {tbl : List CxxStruct} {s : CxxStruct} (h : flatB tbl s = true) :
    ∃ leaves, flatten tbl s = some leaves ∧ tiledFrom 0 leaves = some s.sizeof := by
  unfold flatB at h
  split at h
  · cases h
  · rename_i ls hl
    exact ⟨ls, hl, by simpa using h⟩

end FeVerif.FixedLayout
