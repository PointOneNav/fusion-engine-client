/-
`align` (the literal model of `DataLoader.time_align_data`) never raises and equals `specAlign`.
Core Lean only.

The valid part of every time axis is handled as a sorted set (`IsSortedSet`): two ascending lists with the same
members are equal, so the axis the code reaches by repeated `np.intersect1d` and the one the specification
filters out of the first selected type need only be compared by membership.
-/
import FeVerif.Model.Align

namespace FeVerif.Align

theorem mapM_ok {ε α β : Type} {f : α → Except ε β} {g : α → β} {l : List α}
    (h : ∀ x ∈ l, f x = .ok (g x)) : l.mapM f = .ok (l.map g) := by
  induction l with
  | nil => rfl
  | cons a as ih =>
    rw [List.mapM_cons, h a (by simp), ih fun x hx => h x (List.mem_cons_of_mem _ hx)]
    rfl

theorem mem_zip_map {α β : Type} {f : α → β} {l : List α} {a : α} {b : β} (h : (a, b) ∈ l.zip (l.map f)) :
    a ∈ l ∧ b = f a := by
  have hz : l.zip (l.map f) = l.map fun a => (a, f a) := by
    simpa using List.zip_map' (f := id) (g := f) (l := l)
  rw [hz] at h
  obtain ⟨x, hx, hxe⟩ := List.mem_map.1 h
  cases hxe
  exact ⟨hx, rfl⟩

theorem mem_insertSorted {x v : Int} {l : List Int} : v ∈ insertSorted x l ↔ v = x ∨ v ∈ l := by
  fun_induction insertSorted x l with
  | case1 => simp
  | case2 => exact List.mem_cons
  | case3 => simp
  | case4 _ _ _ _ ih => simp [ih, or_left_comm]

theorem insertSorted_pairwise {x : Int} {l : List Int} (h : l.Pairwise (· < ·)) :
    (insertSorted x l).Pairwise (· < ·) := by
  fun_induction insertSorted x l with
  | case1 => simp
  | case2 y ys hxy =>
    refine List.pairwise_cons.2 ⟨fun a ha => ?_, h⟩
    rcases List.mem_cons.1 ha with rfl | ha
    · exact hxy
    · exact Int.lt_trans hxy (List.rel_of_pairwise_cons h ha)
  | case3 => exact h
  | case4 y ys h1 h2 ih =>
    rw [List.pairwise_cons] at h ⊢
    refine ⟨fun a ha => ?_, ih h.2⟩
    rcases mem_insertSorted.1 ha with rfl | ha
    · omega
    · exact h.1 a ha

theorem sortDedup_cons (y : Int) (ys : List Int) : sortDedup (y :: ys) = insertSorted y (sortDedup ys) := rfl

theorem mem_sortDedup {v : Int} {l : List Int} : v ∈ sortDedup l ↔ v ∈ l := by
  induction l with
  | nil => simp [sortDedup]
  | cons y ys ih => rw [sortDedup_cons, mem_insertSorted, ih, List.mem_cons]

theorem sortDedup_pairwise (l : List Int) : (sortDedup l).Pairwise (· < ·) := by
  induction l with
  | nil => simp [sortDedup]
  | cons y ys ih => exact insertSorted_pairwise ih

theorem mem_valid {v : Int} {a : List Time} : v ∈ valid a ↔ some v ∈ a := by
  simp [valid, List.mem_filterMap]

theorem sortDedup_valid_sortedSet (a : List Time) : IsSortedSet (sortDedup (valid a)) (some · ∈ a) :=
  ⟨sortDedup_pairwise _, fun _ => mem_sortDedup.trans mem_valid⟩

theorem IsSortedSet.filter {l : List Int} {P : Int → Prop} (h : IsSortedSet l P) (p : Int → Bool) :
    IsSortedSet (l.filter p) (fun v => P v ∧ p v = true) :=
  ⟨h.1.filter p, fun v => by rw [List.mem_filter, h.2]⟩

theorem IsSortedSet.congr {l : List Int} {P Q : Int → Prop} (h : IsSortedSet l P) (hPQ : ∀ v, P v ↔ Q v) :
    IsSortedSet l Q :=
  ⟨h.1, fun v => (h.2 v).trans (hPQ v)⟩

theorem IsSortedSet.unique {a b : List Int} {P : Int → Prop} (ha : IsSortedSet a P) (hb : IsSortedSet b P) : a = b :=
  ((List.perm_ext_iff_of_nodup (ha.1.imp Int.ne_of_lt) (hb.1.imp Int.ne_of_lt)).2
      fun v => (ha.2 v).trans (hb.2 v).symm).eq_of_pairwise
    (fun _ _ _ _ h1 h2 => absurd h1 (Int.lt_asymm h2)) ha.1 hb.1

/-- the values `np.intersect1d(a, b)` returns -/
def commonVals (a b : List Time) : List Int := (sortDedup (valid a)).filter fun v => b.contains (some v)

theorem npIntersect1d_eq (a b : List Time) : npIntersect1d a b =
    (commonVals a b).map fun v => { val := some v, ia := a.idxOf (some v), ib := b.idxOf (some v) } := rfl

theorem commonVals_sortedSet (a b : List Time) : IsSortedSet (commonVals a b) (fun v => some v ∈ a ∧ some v ∈ b) :=
  ((sortDedup_valid_sortedSet a).filter _).congr fun _ => by rw [List.contains_iff_mem]

theorem mem_commonVals {a b : List Time} {v : Int} : v ∈ commonVals a b ↔ some v ∈ a ∧ some v ∈ b :=
  (commonVals_sortedSet a b).2 v

theorem Time.ne_of_lt {a b : Time} (h : Time.lt a b) : a ≠ b := by
  intro e; subst e
  cases a with
  | none => exact h
  | some v => exact absurd h (Int.lt_irrefl v)

theorem npUnique_pairwise (a : List Time) : (npUnique a).Pairwise Time.lt := by
  unfold npUnique
  rw [List.pairwise_append]
  refine ⟨?_, ?_, ?_⟩
  · rw [List.pairwise_map]; exact sortDedup_pairwise _
  · split <;> simp
  · intro x hx y hy
    obtain ⟨v, _, rfl⟩ := List.mem_map.1 hx
    split at hy
    · simp at hy; subst hy; trivial
    · simp at hy

theorem getElem?_idxOf_time (msgs : List Msg) (t : Time) :
    msgs[(msgs.map Msg.time).idxOf t]? = msgs.find? (fun m => m.time == t) := by
  rw [List.find?_eq_getElem?_findIdx, List.idxOf, List.findIdx_map]; rfl

theorem time_pick (msgs : List Msg) (t : Time) : (pick msgs t).time = t := by
  unfold pick
  split
  · rfl
  · split
    · rename_i v m h
      simpa using List.find?_some h
    · rfl

theorem pick_of_mem {msgs : List Msg} {v : Int} (h : some v ∈ msgs.map Msg.time) :
    msgs.find? (fun m => m.time == some v) = some (pick msgs (some v)) := by
  obtain ⟨m, hm, hmt⟩ := List.mem_map.1 h
  cases hf : msgs.find? (fun m => m.time == some v) with
  | none => exact absurd (by simp [hmt]) (List.find?_eq_none.1 hf m hm)
  | some m' => simp only [pick, hf]

theorem pick_of_not_mem {msgs : List Msg} {t : Time} (h : t = none ∨ t ∉ msgs.map Msg.time) :
    pick msgs t = .fab t := by
  cases t with
  | none => rfl
  | some v =>
    have hf : msgs.find? (fun m => m.time == some v) = none :=
      List.find?_eq_none.2 fun m hm hmt =>
        h.resolve_left (by simp) (List.mem_map.2 ⟨m, hm, by simpa using hmt⟩)
    simp only [pick, hf]

theorem pick_cases (msgs : List Msg) (t : Time) :
    pick msgs t ∈ msgs ∨ (pick msgs t = .fab t ∧ (t = none ∨ t ∉ msgs.map Msg.time)) := by
  cases t with
  | none => exact .inr ⟨rfl, .inl rfl⟩
  | some v =>
    by_cases h : some v ∈ msgs.map Msg.time
    · exact .inl (List.mem_of_find?_eq_some (pick_of_mem h))
    · exact .inr ⟨pick_of_not_mem (.inr h), .inr h⟩

theorem dropMsgs_eq (msgs : List Msg) (ts : List Time) :
    dropMsgs msgs ts = .ok ((commonVals (msgs.map Msg.time) ts).map fun v => pick msgs (some v)) := by
  unfold dropMsgs
  rw [npIntersect1d_eq, List.mapM_map]
  refine mapM_ok fun v hv => ?_
  simp only [Function.comp, getElem?_idxOf_time, pick_of_mem (mem_commonVals.1 hv).1]

theorem map_set_idxOf {β : Type} {U : List Time} (hU : U.Pairwise (· ≠ ·)) (f : Time → β) (t : Time) (x : β) :
    (U.map f).set (U.idxOf t) x = U.map fun u => if u = t then x else f u := by
  induction U with
  | nil => rfl
  | cons u us ih =>
    rw [List.pairwise_cons] at hU
    rw [List.idxOf_cons]
    by_cases h : u = t
    · subst h
      simp only [beq_self_eq_true, cond_true, List.map_cons, List.set_cons_zero, if_true, List.cons.injEq, true_and]
      exact List.map_congr_left fun v hv => (if_neg (hU.1 v hv).symm).symm
    · have hb : (u == t) = false := by simpa using h
      simp only [hb, cond_false, List.map_cons, List.set_cons_succ, ih hU.2, if_neg h]

/-- `message_indices[all_idx] = idx`: the index array stays the image of the axis `U` under a function of the slot
time; every common value overwrites the slot of its own time. -/
theorem foldlM_assignIdx {U : List Time} (hU : U.Pairwise (· ≠ ·)) (p : List Time) (W : List Int)
    (hW : ∀ w ∈ W, some w ∈ U) (f : Time → Option Nat) :
    (W.map fun v => ({ val := some v, ia := p.idxOf (some v), ib := U.idxOf (some v) } : Common)).foldlM
        assignIdx (U.map f)
      = .ok (U.map fun t => if t ∈ W.map some then some (p.idxOf t) else f t) := by
  induction W generalizing f with
  | nil => rfl
  | cons w W ih =>
    have hk : U.idxOf (some w) < (U.map f).length := by
      rw [List.length_map]; exact List.idxOf_lt_length_of_mem (hW w (by simp))
    rw [List.map_cons, List.foldlM_cons]
    simp only [assignIdx, hk, if_true]
    rw [map_set_idxOf hU]
    refine (ih (fun x hx => hW x (List.mem_cons_of_mem _ hx)) _).trans
      (congrArg _ (List.map_congr_left fun t _ => ?_))
    by_cases h1 : t = some w <;> by_cases h2 : t ∈ W.map some <;> simp [h1, h2]

theorem insertMsgs_eq (msgs : List Msg) (U : List Time) (hU : U.Pairwise (· ≠ ·)) :
    insertMsgs msgs U = .ok (U.map (pick msgs)) := by
  -- `message_indices`, started as all `-1` (`f = fun _ => none`), ends as
  -- `U.map fun t => if t is a common value then the index of its first message else -1`
  have hmi := foldlM_assignIdx hU (msgs.map Msg.time) (commonVals (msgs.map Msg.time) U)
    (fun w hw => (mem_commonVals.1 hw).2) (fun _ => none)
  rw [List.map_const'] at hmi
  unfold insertMsgs messageIndices
  rw [npIntersect1d_eq, hmi]
  -- slot `i` yields `pick msgs U[i]`; written with `U[i]?.getD none` the comprehension over `range U.length` is `U.map`
  refine (mapM_ok (g := fun i => pick msgs (U[i]?.getD none)) fun i hi => ?_).trans (congrArg _ ?_)
  · have hi := List.mem_range.1 hi
    have hiU := List.getElem_mem hi
    simp only [getValue, List.getElem?_map, List.getElem?_eq_getElem hi, Option.map_some, Option.getD_some]
    generalize U[i] = t at hiU
    by_cases hc : t ∈ (commonVals (msgs.map Msg.time) U).map some
    · obtain ⟨v, hv, rfl⟩ := List.mem_map.1 hc
      simp only [if_pos hc, getElem?_idxOf_time, pick_of_mem (mem_commonVals.1 hv).1]
    · have : t = none ∨ t ∉ msgs.map Msg.time := by
        cases t with
        | none => exact Or.inl rfl
        | some v => exact Or.inr fun hm => hc (List.mem_map.2 ⟨v, mem_commonVals.2 ⟨hm, hiU⟩, rfl⟩)
      simp only [if_neg hc, pick_of_not_mem this]
  · refine List.ext_getElem? fun i => ?_
    by_cases hi : i < U.length <;> simp [hi]

theorem inAll_iff {req : Option (List Nat)} {d : List Entry} {v : Int} :
    InAll req d v ↔ ∀ e ∈ d.filter (selected req), some v ∈ p1Times e := by
  simp [InAll, List.mem_filter]

theorem timeStep_foldl_drop (es : List Entry) (s : List Time) :
    ∃ s', es.foldl (fun ts e => timeStep .drop ts (p1Times e)) (some s) = some s' ∧
      ∀ v : Int, some v ∈ s' ↔ some v ∈ s ∧ ∀ e ∈ es, some v ∈ p1Times e := by
  induction es generalizing s with
  | nil => exact ⟨s, rfl, by simp⟩
  | cons e es ih =>
    obtain ⟨s', h1, h2⟩ := ih ((npIntersect1d s (p1Times e)).map Common.val)
    refine ⟨s', h1, fun v => ?_⟩
    rw [h2, npIntersect1d_eq, List.map_map, List.forall_mem_cons, ← and_assoc]
    simp [mem_commonVals]

theorem timeStep_foldl_insert (es : List Entry) (s : List Time) :
    es.foldl (fun ts e => timeStep .insert ts (p1Times e)) (some s) = some (s ++ es.flatMap p1Times) := by
  induction es generalizing s with
  | nil => simp
  | cons e es ih => exact (ih (s ++ p1Times e)).trans (by simp)

theorem timeSet_eq_none {mode : Mode} {req : Option (List Nat)} {d : List Entry} (h : timeSet mode req d = none) :
    d.filter (selected req) = [] := by
  unfold timeSet at h
  cases hf : d.filter (selected req) with
  | nil => rfl
  | cons e0 es =>
    rw [hf] at h
    cases mode with
    | drop => obtain ⟨s', h1, _⟩ := timeStep_foldl_drop es (p1Times e0); exact absurd (h1.symm.trans h) (by simp)
    | insert => exact absurd ((timeStep_foldl_insert es (p1Times e0)).symm.trans h) (by simp)

theorem timeSet_drop {req : Option (List Nat)} {d : List Entry} {ts : List Time} (h : timeSet .drop req d = some ts)
    (v : Int) : some v ∈ ts ↔ InAll req d v := by
  unfold timeSet at h
  rw [inAll_iff]
  cases hf : d.filter (selected req) with
  | nil => rw [hf] at h; cases h
  | cons e0 es =>
    rw [hf] at h
    obtain ⟨s', h1, h2⟩ := timeStep_foldl_drop es (p1Times e0)
    cases h1.symm.trans h
    rw [h2, List.forall_mem_cons]

theorem timeSet_insert {req : Option (List Nat)} {d : List Entry} {ts : List Time}
    (h : timeSet .insert req d = some ts) : ts = (d.filter (selected req)).flatMap p1Times := by
  unfold timeSet at h
  cases hf : d.filter (selected req) with
  | nil => rw [hf] at h; cases h
  | cons e0 es =>
    rw [hf] at h
    cases (timeStep_foldl_insert es (p1Times e0)).symm.trans h
    rfl

theorem specTimes_drop_sortedSet {req : Option (List Nat)} {d : List Entry} {e : Entry} (he : e ∈ d)
    (hs : selected req e = true) :
    ∃ T : List Int, specTimes .drop req d = T.map some ∧ IsSortedSet T (InAll req d) := by
  unfold specTimes
  cases hf : d.filter (selected req) with
  | nil => exact absurd (List.mem_filter.2 ⟨he, hs⟩) (by simp [hf])
  | cons e0 es =>
    refine ⟨_, rfl, ((sortDedup_valid_sortedSet _).filter _).congr fun v => ?_⟩
    rw [inAll_iff, hf, List.forall_mem_cons]
    simp

theorem specTimes_insert_sortedSet (req : Option (List Nat)) (d : List Entry) :
    ∃ T : List Int, IsSortedSet T (InSome req d) ∧
      ((¬ AnyNaN req d ∧ specTimes .insert req d = T.map some) ∨
       (AnyNaN req d ∧ specTimes .insert req d = T.map some ++ [none])) := by
  have hmem : ∀ t : Time, t ∈ (d.filter (selected req)).flatMap p1Times ↔
      ∃ e ∈ d, selected req e = true ∧ t ∈ p1Times e := by
    simp [List.mem_flatMap, List.mem_filter, and_assoc]
  refine ⟨_, (sortDedup_valid_sortedSet _).congr fun v => hmem (some v), ?_⟩
  simp only [specTimes, npUnique, List.contains_iff_mem, hmem none]
  by_cases hn : AnyNaN req d
  · exact Or.inr ⟨hn, congrArg _ (if_pos hn)⟩
  · exact Or.inl ⟨hn, (congrArg _ (if_neg hn)).trans (List.append_nil _)⟩

theorem specTimes_pairwise (mode : Mode) (req : Option (List Nat)) (d : List Entry) :
    (specTimes mode req d).Pairwise Time.lt := by
  cases mode with
  | insert => exact npUnique_pairwise _
  | drop =>
    simp only [specTimes]
    split
    · exact List.Pairwise.nil
    · rw [List.pairwise_map]; exact (sortDedup_pairwise _).filter _

theorem realign_eq (mode : Mode) (req : Option (List Nat)) (data : List Entry) (ts : List Time)
    (hts : timeSet mode req data = some ts) (e : Entry) (he : e ∈ data) (hsel : selected req e = true) :
    realign mode ts e.msgs = .ok ((specTimes mode req data).map (pick e.msgs)) := by
  cases mode with
  | drop =>
    obtain ⟨T, hT, hS⟩ := specTimes_drop_sortedSet he hsel
    -- `e` is one of the aligned types: intersecting its own times with the times all of them have changes nothing
    have : commonVals (e.msgs.map Msg.time) ts = T :=
      ((commonVals_sortedSet _ _).congr fun v => by
        rw [timeSet_drop hts]; exact ⟨And.right, fun h => ⟨h e he hsel, h⟩⟩).unique hS
    rw [realign, dropMsgs_eq, this, hT, List.map_map]; rfl
  | insert =>
    rw [realign, insertMsgs_eq _ _ ((npUnique_pairwise _).imp Time.ne_of_lt), timeSet_insert hts]; rfl

theorem align_eq_spec (mode : Mode) (req : Option (List Nat)) (data : List Entry) :
    align mode req data = .ok (specAlign mode req data) := by
  unfold align specAlign
  cases hts : timeSet mode req data with
  | none =>
    have hnil := timeSet_eq_none hts
    refine congrArg _ ((List.map_id' data).symm.trans (List.map_congr_left fun e he => ?_))
    have : selected req e ≠ true := fun hs => by simpa [hnil] using List.mem_filter.2 ⟨he, hs⟩
    rw [if_neg this]
  | some ts =>
    refine mapM_ok fun e he => ?_
    cases hs : selected req e with
    | false => simp
    | true => simp only [if_true, realign_eq mode req data ts hts e he hs]

theorem alignSeq_cons (c : Call) (cs : List Call) (d : List Entry) :
    alignSeq (c :: cs) d = (align c.mode c.req d).bind (alignSeq cs) :=
  List.foldlM_cons ..

theorem alignSeq_append (cs₁ cs₂ : List Call) (d : List Entry) :
    alignSeq (cs₁ ++ cs₂) d = (alignSeq cs₁ d).bind (alignSeq cs₂) :=
  List.foldlM_append ..

theorem align_pair {mode : Mode} {req : Option (List Nat)} {d d' : List Entry} {e e' : Entry}
    (h : align mode req d = .ok d') (hp : (e, e') ∈ d.zip d') :
    e ∈ d ∧ e' = if selected req e then { e with msgs := (specTimes mode req d).map (pick e.msgs) } else e := by
  rw [align_eq_spec] at h; cases h
  rw [specAlign] at hp
  exact (mem_zip_map hp :)

theorem aligned_msgs {mode : Mode} {req : Option (List Nat)} {d d' : List Entry} {e e' : Entry}
    (h : align mode req d = .ok d') (hp : (e, e') ∈ d.zip d') (hs : selected req e = true) :
    e'.msgs = (specTimes mode req d).map (pick e.msgs) := by
  rw [(align_pair h hp).2, if_pos hs]

theorem aligned_times {mode : Mode} {req : Option (List Nat)} {d d' : List Entry} {e e' : Entry}
    (h : align mode req d = .ok d') (hp : (e, e') ∈ d.zip d') (hs : selected req e = true) :
    e'.msgs.map Msg.time = specTimes mode req d := by
  rw [aligned_msgs h hp hs, List.map_map]
  exact (List.map_congr_left fun t _ => time_pick e.msgs t).trans (List.map_id' _)

end FeVerif.Align
