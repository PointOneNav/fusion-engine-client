/-
The 24-byte FusionEngine header as the framing configurations built on it read it: the announced length
(`msgLen_fe`, for `cfgPy`, `cfgFile` and, in CxxScan.lean, `cfgCxx`), and the header and CRC checks of `cfgPy` and
`cfgFile` in terms of the whole buffer.
-/
import FeVerif.Model.Header
import FeVerif.Proofs.Bytes

namespace FeVerif

theorem msgLen_fe {c : Cfg} (h1 : c.hdrLen = HDR) (h2 : c.payload = fun h => u32le h 16) (buf : Bytes) :
    c.msgLen buf = HDR + u32le buf 16 := by
  rw [Cfg.msgLen, h1, h2]
  exact congrArg _ (u32le_take (by decide))

theorem cfgPy_msgLen (m : Nat) (buf : Bytes) : (cfgPy m).msgLen buf = HDR + u32le buf 16 :=
  msgLen_fe rfl rfl buf

theorem pyHeaderOk_take (m : Nat) (buf : Bytes) :
    pyHeaderOk m (buf.take HDR) =
      (decide (byteAt buf 0 = SYNC0) && decide (byteAt buf 1 = SYNC1) && decide (u16le buf 2 = 0) &&
        decide (u32le buf 16 ≤ m)) := by
  unfold pyHeaderOk HDR
  rw [byteAt_take (by omega), byteAt_take (by omega), u16le_take (by omega), u32le_take (by omega)]

theorem HDR_eq : HDR = 24 := rfl

theorem pyCrcOk_take (buf : Bytes) :
    pyCrcOk (buf.take (HDR + u32le buf 16)) = pyCrcOk buf := by
  unfold pyCrcOk HDR
  rw [u32le_take (by omega), u32le_take (by omega), List.take_take, Nat.min_self]

theorem pyCrcOk_drop (data : Bytes) (i : Nat) :
    pyCrcOk (data.drop i) = (decide (u32le data (i + 16) ≤ MAX_EXPECTED) &&
      decide ((crc32 0#32 (slice data (i + 8) (16 + u32le data (i + 16)))).toNat = u32le data (i + 4))) := by
  unfold pyCrcOk slice
  rw [u32le_drop, u32le_drop, List.drop_take, List.drop_drop,
    show HDR + u32le data (i + 16) - 8 = 16 + u32le data (i + 16) by unfold HDR; omega]

theorem cfgPy_step (m : Nat) (buf : Bytes) :
    (cfgPy m).step buf =
      if buf.length < HDR then .stop
      else if pyHeaderOk m (buf.take HDR) = false then .drop
      else if buf.length < HDR + u32le buf 16 then .stop
      else if pyCrcOk buf = true then .emit (HDR + u32le buf 16) else .drop := by
  rw [Cfg.step, cfgPy_msgLen]
  simp only [cfgPy, pyCrcOk_take]

theorem fileHeaderOk_take (buf : Bytes) :
    fileHeaderOk (buf.take HDR) =
      (decide (byteAt buf 0 = SYNC0) && decide (byteAt buf 1 = SYNC1) && decide (u32le buf 16 ≤ MAX_EXPECTED)) := by
  unfold fileHeaderOk
  rw [byteAt_take (by decide), byteAt_take (by decide), u32le_take (by decide)]

theorem cfgFile_stepFile_emit {buf : Bytes} {n : Nat} :
    cfgFile.stepFile buf = .emit n ↔
      HDR ≤ buf.length ∧ fileHeaderOk (buf.take HDR) = true ∧ n = HDR + u32le buf 16 ∧ n ≤ buf.length ∧
        pyCrcOk buf = true := by
  rw [Cfg.stepFile_emit_iff, Cfg.step_emit_iff, msgLen_fe rfl rfl]
  refine and_congr_right fun _ => and_congr_right fun _ => and_congr_right fun hn => ?_
  show _ ∧ pyCrcOk (buf.take n) = true ↔ _
  rw [hn, pyCrcOk_take]

end FeVerif
