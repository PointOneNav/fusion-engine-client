/-
C02 — the facts about the compiler-derived table `cxxStructs` (Generated/C02CxxLayout.lean): each Bool-valued
checker is evaluated once by the kernel over the whole table (`all_tiled` is read off `all_packed`).
-/
import FeVerif.Generated.C02CxxLayout
import FeVerif.Proofs.FixedLayout

namespace FeVerif.C02Gen
open FeVerif.FixedLayout

-- A failing evaluation does not say which struct is at fault.  For the tiling tools/c02_cxx_layout.py does
-- (`NOT TILED: …`); for the other checkers `#eval (cxxStructs.filter (!shapesB cxxStructs ·)).map (·.name)` and its like.
theorem all_packed : ∀ s ∈ cxxStructs, packedB s = true := by decide +kernel

theorem all_tiled : ∀ s ∈ cxxStructs, tiledFrom 0 s.members = some s.sizeof :=
  fun s hs => (packedB_iff.1 (all_packed s hs)).1

theorem all_shapes : ∀ s ∈ cxxStructs, shapesB cxxStructs s = true := by decide +kernel

theorem all_flat : ∀ s ∈ cxxStructs, flatB cxxStructs s = true := by decide +kernel

theorem all_falign : ∀ s ∈ cxxStructs, floatsAlignedB cxxStructs s = true := by decide +kernel

theorem keys_distinct : keysDistinctB cxxStructs = true := by decide +kernel

end FeVerif.C02Gen
